import Kdf.Model.SysMsg
/-!
# C16 — the error string after `addrxlat_op` / `addrxlat_fulladdr_conv`

For every translation system, capability mask, walk function and address: the
message-threading model of `do_op` computes the same result as the C09 model
(`Kdf.Model.Sys`, tied to sys.c by stream `sys`), a call that reaches the
callback leaves the error string empty whatever the alternatives tried before
left behind, and a call that fails without reaching it leaves a message.
-/
namespace Kdf.Props.C16
open Kdf.Model.Pgt Kdf.Model.Sys Kdf.Model.SysMsg
open Kdf.Model

/-- the inner loop of `do_op`: the C09 result plus the flag -/
theorem tryAltM_spec (sys : Sys) (caps : Nat) (wk : WalkFn) (alts : List Nat) (a : FullAddr) (m : Bool) :
    ∃ m', tryAltM sys caps wk alts a m = (tryAlt sys caps wk alts a, m') ∧
      (∀ fa, tryAlt sys caps wk alts a = .done (.call fa) → m' = false) ∧
      (∀ e, tryAlt sys caps wk alts a = .done (.fail e) → m' = true) := by
  induction alts generalizing m with
  | nil => exact ⟨m, rfl, by simp [tryAlt], by simp [tryAlt]⟩
  | cons mi ms ih =>
    unfold tryAltM tryAlt
    by_cases h1 : a.as ≠ mapExpectAs mi
    · rw [if_pos h1, if_pos h1]; exact ih _
    · rw [if_neg h1, if_neg h1]
      cases sys.maps[mi]? with
      | none => exact ⟨m, rfl, by simp, by simp⟩
      | some om =>
        cases om with
        | none => exact ih _
        | some mp =>
          dsimp only
          by_cases h2 : Map.mapSearch mp a.addr = Map.NONE
          · rw [if_pos h2, if_pos h2]; exact ih _
          · rw [if_neg h2, if_neg h2]
            cases methAt sys (Map.mapSearch mp a.addr) with
            | none => exact ⟨false, rfl, by simp, by simp⟩
            | some meth =>
              cases meth <;> dsimp only
              case linear t off => split <;> exact ⟨false, rfl, by simp, by simp⟩
              all_goals
                cases wk _ a.addr with
                | ok s => dsimp only; split <;> exact ⟨false, rfl, by simp, by simp⟩
                | error e =>
                  dsimp only
                  split
                  · exact ih _
                  · exact ⟨true, rfl, by simp, by simp⟩

theorem tryAltM_fst (sys : Sys) (caps : Nat) (wk : WalkFn) (alts : List Nat) (a : FullAddr) (m : Bool) :
    (tryAltM sys caps wk alts a m).1 = tryAlt sys caps wk alts a := by
  obtain ⟨m', h, _⟩ := tryAltM_spec sys caps wk alts a m
  rw [h]

theorem tryAltM_inv (sys : Sys) (caps : Nat) (wk : WalkFn) (alts : List Nat) (a : FullAddr) (m : Bool) :
    (∀ fa m', tryAltM sys caps wk alts a m = (.done (.call fa), m') → m' = false) ∧
    (∀ e m', tryAltM sys caps wk alts a m = (.done (.fail e), m') → m' = true) := by
  obtain ⟨m₀, h, hc, hf⟩ := tryAltM_spec sys caps wk alts a m
  constructor
  · intro fa m' heq
    obtain ⟨h1, h2⟩ := Prod.mk.inj (h.symm.trans heq)
    exact h2 ▸ hc fa h1
  · intro e m' heq
    obtain ⟨h1, h2⟩ := Prod.mk.inj (h.symm.trans heq)
    exact h2 ▸ hf e h1

theorem doOpM_spec (sys : Sys) (caps : Nat) (wk : WalkFn) (ch : List (List Nat)) (a : FullAddr) (m : Bool) :
    ∃ m', doOpM sys caps wk ch a m = (doOp sys caps wk ch a, m') ∧
      (∀ fa, doOp sys caps wk ch a = .call fa → m' = false) ∧
      (∀ e, doOp sys caps wk ch a = .fail e → m' = true) := by
  induction ch generalizing a m with
  | nil => exact ⟨true, rfl, by simp [doOp], fun _ _ => rfl⟩
  | cons alt rest ih =>
    unfold doOpM doOp
    obtain ⟨m₁, h, hc, hf⟩ := tryAltM_spec sys caps wk alt a m
    rw [h]
    cases htr : tryAlt sys caps wk alt a with
    | done r => exact ⟨m₁, rfl, fun fa hr => hc fa (hr ▸ htr), fun e hr => hf e (hr ▸ htr)⟩
    | next a' => exact ih a' m₁

theorem doOpM_fst (sys : Sys) (caps : Nat) (wk : WalkFn) (ch : List (List Nat)) (a : FullAddr) (m : Bool) :
    (doOpM sys caps wk ch a m).1 = doOp sys caps wk ch a := by
  obtain ⟨m', h, _⟩ := doOpM_spec sys caps wk ch a m
  rw [h]

/-- `do_op`: success (the callback is reached) leaves no stale message -/
theorem doOpM_call_clean (sys : Sys) (caps : Nat) (wk : WalkFn) (ch : List (List Nat)) (a : FullAddr) (m : Bool)
    (fa : FullAddr) (m' : Bool) (h : doOpM sys caps wk ch a m = (.call fa, m')) : m' = false := by
  obtain ⟨m₀, h₀, hc, _⟩ := doOpM_spec sys caps wk ch a m
  obtain ⟨h1, h2⟩ := Prod.mk.inj (h₀.symm.trans h)
  exact h2 ▸ hc fa h1

/-- `do_op`: a failure carries a message -/
theorem doOpM_fail_msg (sys : Sys) (caps : Nat) (wk : WalkFn) (ch : List (List Nat)) (a : FullAddr) (m : Bool)
    (e : XStatus) (m' : Bool) (h : doOpM sys caps wk ch a m = (.fail e, m')) : m' = true := by
  obtain ⟨m₀, h₀, _, hf⟩ := doOpM_spec sys caps wk ch a m
  obtain ⟨h1, h2⟩ := Prod.mk.inj (h₀.symm.trans h)
  exact h2 ▸ hf e h1

/-- the message-threading model of `addrxlat_op` is the C09 model plus the flag -/
theorem opTopM_fst (c : Cfg) (caps : Nat) (a : FullAddr) : (opTopM c caps a).1 = opTop c caps a := by
  unfold opTopM opTop
  show _ = op c (MAX_INFLIGHT - 1 + 1) caps [] a
  rw [op]
  cases hp : pre c caps a with
  | error r => cases r <;> rfl
  | ok sc => exact doOpM_fst _ _ _ _ _ _

/-- `addrxlat_op` / `addrxlat_fulladdr_conv`: a successful call leaves no stale error behind -/
theorem op_success_clean (c : Cfg) (caps : Nat) (a fa : FullAddr) (m : Bool)
    (h : opTopM c caps a = (.call fa, m)) : m = false := by
  unfold opTopM at h
  cases hp : pre c caps a with
  | error r =>
    rw [hp] at h
    cases r with
    | call fa' => exact (Prod.mk.inj h).2.symm
    | fail e => cases (Prod.mk.inj h).1
    | oob => cases (Prod.mk.inj h).1
  | ok sc =>
    rw [hp] at h
    exact doOpM_call_clean _ _ _ _ _ _ _ _ h

/-- `addrxlat_op` / `addrxlat_fulladdr_conv`: a failing call leaves a message -/
theorem op_failure_msg (c : Cfg) (caps : Nat) (a : FullAddr) (e : XStatus) (m : Bool)
    (h : opTopM c caps a = (.fail e, m)) : m = true := by
  unfold opTopM at h
  cases hp : pre c caps a with
  | error r =>
    rw [hp] at h
    cases r with
    | call fa' => cases (Prod.mk.inj h).1
    | fail e' => exact (Prod.mk.inj h).2.symm
    | oob => exact (Prod.mk.inj h).2.symm
  | ok sc =>
    rw [hp] at h
    exact doOpM_fail_msg _ _ _ _ _ _ _ _ h

end Kdf.Props.C16
