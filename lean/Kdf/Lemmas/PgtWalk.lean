import Kdf.Model.Pgt
import Kdf.Spec.ArchWalk
/-!
# The index array of a page-table walk

`first_step_pgt_generic` cuts the input address into one index per field.  `IdxOK` says
what the entries are; the handlers of `aarch64.c`, `arm.c` and `ppc64.c` leave the array
alone until they reach a leaf, so it is the invariant of every walk.  `pgt_huge_page`
folds the indices below a block into `idx[0]` (`hugePage_spec`), and the last round of
`addrxlat_walk` adds `idx[0]` to the base: `walkLoop_page`, `walkLoop_huge`.
-/
open Kdf.Model.Pgt Kdf.Spec.ArchWalk

namespace Kdf.Lemmas.PgtWalk

/-! ### disjoint bit fields -/

theorem or_eq_add (a b k : Nat) (hb : b < 2^k) : a * 2^k ||| b = a * 2^k + b := by
  rw [Nat.mul_comm]; exact (Nat.two_pow_add_eq_or_of_lt hb a).symm

theorem or_eq_add' (a b k : Nat) (hb : b < 2^k) : b ||| a * 2^k = b + a * 2^k := by
  rw [Nat.or_comm, or_eq_add a b k hb, Nat.add_comm]

theorem mod_split (A f d : Nat) : (A / 2^f % 2^d) * 2^f + A % 2^f = A % 2^(f + d) := by
  rw [Nat.pow_add, Nat.mod_mul, Nat.mul_comm, Nat.add_comm]

theorem mul_pow_lt {x d e : Nat} (hx : x < 2^d) (hde : d + e ≤ 64) : x * 2^e < 2^64 := by
  have h1 : x * 2^e < 2^d * 2^e := Nat.mul_lt_mul_of_pos_right hx (Nat.two_pow_pos _)
  rw [← Nat.pow_add] at h1
  exact Nat.lt_of_lt_of_le h1 (Nat.pow_le_pow_right (by decide) hde)

/-! ### `spanBits` -/

theorem foldl_add_init (xs : List Nat) (a : Nat) :
    xs.foldl (· + ·) a = a + xs.foldl (· + ·) 0 := by
  induction xs generalizing a with
  | nil => rfl
  | cons x xs ih => simp only [List.foldl_cons]; rw [ih (a + x), ih (0 + x)]; omega

theorem span_zero (fs : List Nat) : spanBits fs 0 = 0 := rfl

theorem span_cons (b : Nat) (bs : List Nat) (i : Nat) : spanBits (b :: bs) (i+1) = b + spanBits bs i := by
  simp only [spanBits, List.take_succ_cons, List.foldl_cons]
  rw [foldl_add_init]; omega

theorem span_succ (fs : List Nat) (k : Nat) : spanBits fs (k+1) = spanBits fs k + fs.getD k 0 := by
  induction fs generalizing k with
  | nil => simp [spanBits]
  | cons b bs ih =>
    cases k with
    | zero => rw [span_cons, span_zero, span_zero]; simp
    | succ k => rw [span_cons, span_cons, ih, List.getD_cons_succ]; omega

theorem span_one (fs : List Nat) : spanBits fs 1 = fs.getD 0 0 := by
  rw [span_succ, span_zero, Nat.zero_add]

theorem span_cons_replicate (g d n : Nat) (tl : List Nat) (r : Nat) (h : r ≤ n) :
    spanBits (g :: (List.replicate n d ++ tl)) (r + 1) = g + r * d := by
  induction r with
  | zero => rw [span_one, List.getD_cons_zero, Nat.zero_mul, Nat.add_zero]
  | succ r ih =>
    have hr : r < n := h
    rw [span_succ, ih (Nat.le_of_lt hr), List.getD_cons_succ, List.getD_eq_getElem?_getD,
      List.getElem?_append_left (by rw [List.length_replicate]; exact hr), List.getElem?_replicate, if_pos hr,
      Option.getD_some, Nat.succ_mul, Nat.add_assoc]

theorem span_mono (fs : List Nat) {a b : Nat} (h : a ≤ b) : spanBits fs a ≤ spanBits fs b := by
  induction h with
  | refl => exact Nat.le_refl _
  | step _ ih => rw [span_succ]; omega

/-! ### `pf_table_span`, `pf_table_mask` -/

theorem tableSpan_fold (l : List Nat) (c : Nat) :
    l.foldl (fun acc b => acc * 2^b % W) (c % W) = c * 2^(l.foldl (· + ·) 0) % W := by
  induction l generalizing c with
  | nil => simp
  | cons b bs ih =>
    simp only [List.foldl_cons]
    rw [Nat.mod_mul_mod, ih, foldl_add_init bs (0 + b), Nat.zero_add, Nat.pow_add, Nat.mul_assoc]

theorem tableSpan_eq (pf : PagingForm) (r : Nat) : tableSpan pf r = 2^(spanBits pf.fieldsz r) % W := by
  have := tableSpan_fold (pf.fieldsz.take r) 1
  rw [Nat.one_mul] at this
  exact this

/-- for span = 64 the C expression wraps to 0 and the mask is all ones -/
theorem tableMask_eq (pf : PagingForm) (r : Nat) (h : spanBits pf.fieldsz r ≤ 64) :
    tableMask pf r = 2^(spanBits pf.fieldsz r) - 1 := by
  unfold tableMask
  rw [tableSpan_eq]
  generalize spanBits pf.fieldsz r = k at h ⊢
  by_cases hk : k = 64
  · subst hk; decide
  · have h1 : (2:Nat)^k < 2^64 := Nat.pow_lt_pow_right (by decide) (by omega)
    have h2 : 0 < (2:Nat)^k := Nat.two_pow_pos k
    have e : 2^k % W = 2^k := Nat.mod_eq_of_lt h1
    rw [e]
    show (2^k + 2^64 - 1) % 2^64 = 2^k - 1
    omega

/-! ### the first step -/

/-- The array has an entry for every field and one for the rest of the address;
entry `i` is field `i` of the address. -/
def IdxOK (pf : PagingForm) (va : Nat) (idx : List Nat) : Prop :=
  pf.fieldsz.length < idx.length ∧
  ∀ i, i < pf.fieldsz.length → idx.getD i 0 = va / 2^(spanBits pf.fieldsz i) % 2^(pf.fieldsz.getD i 0)

theorem IdxOK.zero {pf : PagingForm} {va : Nat} {idx : List Nat} (h : IdxOK pf va idx)
    (hlen : 0 < pf.fieldsz.length) : idx.getD 0 0 = va % 2^(pf.fieldsz.getD 0 0) := by
  have h0 := h.2 0 hlen
  rwa [span_zero, Nat.pow_zero, Nat.div_one] at h0

theorem split_length (fs : List Nat) (va : Nat) : (firstStepPgtGeneric.split fs va).length = fs.length + 1 := by
  induction fs generalizing va with
  | nil => rfl
  | cons b bs ih => simp only [firstStepPgtGeneric.split, List.length_cons, ih]

theorem split_getD (fs : List Nat) (va i : Nat) (hfs : ∀ b ∈ fs, b < 64) (hi : i < fs.length) :
    (firstStepPgtGeneric.split fs va).getD i 0 = va / 2^(spanBits fs i) % 2^(fs.getD i 0) := by
  induction fs generalizing va i with
  | nil => simp at hi
  | cons b bs ih =>
    have hb : b < 64 := hfs b (by simp)
    cases i with
    | zero => simp [firstStepPgtGeneric.split, hb, span_zero]
    | succ i =>
      have hi' : i < bs.length := by simpa using hi
      simp only [firstStepPgtGeneric.split, hb, if_true, List.getD_cons_succ]
      rw [ih (va / 2^b) i (fun x hx => hfs x (by simp [hx])) hi', span_cons, Nat.pow_add, Nat.div_div_eq_div_mul]

theorem split_getD_top (l : List Nat) (a : Nat) (hl : ∀ b ∈ l, b < 64) :
    (firstStepPgtGeneric.split l a).getD l.length 0 = a / 2^(spanBits l l.length) := by
  induction l generalizing a with
  | nil => simp [firstStepPgtGeneric.split, span_zero]
  | cons b bs ih =>
    have hb : b < 64 := hl b (by simp)
    simp only [firstStepPgtGeneric.split, hb, if_true, List.length_cons]
    rw [List.getD_cons_succ, span_cons, ih (a / 2^b) (fun x hx => hl x (by simp [hx])),
      Nat.pow_add, Nat.div_div_eq_div_mul]

/-- The index array `first_step_pgt_generic` builds (fields wider than 63 bits are not split). -/
theorem idxOK_first (pf : PagingForm) (va : Nat) (hfs : ∀ b ∈ pf.fieldsz, b < 64) :
    IdxOK pf va (firstStepPgtGeneric.split pf.fieldsz va ++
      List.replicate (9 - (firstStepPgtGeneric.split pf.fieldsz va).length) 0) := by
  have hlen := split_length pf.fieldsz va
  refine ⟨by rw [List.length_append, hlen]; omega, fun i hi => ?_⟩
  rw [List.getD_eq_getElem?_getD, List.getElem?_append_left (by omega), ← List.getD_eq_getElem?_getD]
  exact split_getD pf.fieldsz va i hfs hi

theorem getD_set_self (l : List Nat) (i v : Nat) (h : i < l.length) : (l.set i v).getD i 0 = v := by
  rw [List.getD_eq_getElem?_getD, List.getElem?_set_self h, Option.getD_some]

theorem getD_set_ne (l : List Nat) {i j : Nat} (v : Nat) (h : i ≠ j) : (l.set i v).getD j 0 = l.getD j 0 := by
  rw [List.getD_eq_getElem?_getD, List.getElem?_set_ne h, List.getD_eq_getElem?_getD]

/-! ### `pgt_huge_page` -/

section
variable (pf : PagingForm) (s : Step)

theorem hugePage_go_stop (fuel : Nat) {k : Nat} (off : Nat) (h : k ≤ 1) :
    hugePage.go pf s fuel k off = (k, off) := by
  cases fuel with
  | zero => rfl
  | succ fuel => rw [hugePage.go, if_neg (Nat.not_lt.2 h)]

theorem hugePage_go_succ (fuel k off : Nat) :
    hugePage.go pf s (fuel+1) (k+2) off =
      hugePage.go pf s fuel (k+1) (((off ||| s.idx.getD (k+1) 0) * 2^(fieldAt pf k)) % W) := by
  rw [hugePage.go, if_pos (Nat.lt_add_left k Nat.one_lt_two)]
  rfl

theorem hugePage_go_remain (fuel k off : Nat) :
    (hugePage.go pf s fuel k off).1 ≤ k ∧ (1 ≤ k → 1 ≤ (hugePage.go pf s fuel k off).1) := by
  induction fuel generalizing k off with
  | zero => exact ⟨Nat.le_refl _, id⟩
  | succ fuel ih =>
    match k with
    | 0 | 1 => rw [hugePage_go_stop pf s _ off (by omega)]; exact ⟨Nat.le_refl _, id⟩
    | k+2 =>
      rw [hugePage_go_succ]
      have := ih (k+1) (((off ||| s.idx.getD (k+1) 0) * 2^(fieldAt pf k)) % W)
      omega

/-- Invariant of the loop of `pgt_huge_page`: in front of field `j+1`, `off` holds the address
bits between that field and the top of the block (`spanBits R`), shifted by field `j`. -/
theorem hugePage_go_fold (va R : Nat)
    (hidx : ∀ i, i < R → s.idx.getD i 0 = va / 2^(spanBits pf.fieldsz i) % 2^(pf.fieldsz.getD i 0))
    (hspan : spanBits pf.fieldsz R ≤ 64) (j fuel : Nat) (hj : j < R) (hf : j < fuel) :
    hugePage.go pf s fuel (j+1)
        (va / 2^(spanBits pf.fieldsz (j+1)) % 2^(spanBits pf.fieldsz R - spanBits pf.fieldsz (j+1))
          * 2^(fieldAt pf j)) =
      (1, va / 2^(fieldAt pf 0) % 2^(spanBits pf.fieldsz R - fieldAt pf 0) * 2^(fieldAt pf 0)) := by
  induction j generalizing fuel with
  | zero => rw [hugePage_go_stop pf s fuel _ (Nat.le_refl 1), span_one]; rfl
  | succ j ih =>
    obtain ⟨fuel, rfl⟩ : ∃ f, fuel = f + 1 := ⟨fuel - 1, by omega⟩
    have hm : spanBits pf.fieldsz (j+1) + pf.fieldsz.getD (j+1) 0 ≤ spanBits pf.fieldsz R := by
      rw [← span_succ]; exact span_mono _ hj
    have he : pf.fieldsz.getD j 0 ≤ spanBits pf.fieldsz (j+1) := by rw [span_succ]; omega
    rw [hugePage_go_succ, ← ih fuel (by omega) (by omega), hidx (j+1) hj, span_succ _ (j+1)]
    congr 1
    show (_ * 2^(pf.fieldsz.getD (j+1) 0) ||| _) * 2^(pf.fieldsz.getD j 0) % W = _ * 2^(pf.fieldsz.getD j 0)
    generalize pf.fieldsz.getD (j+1) 0 = f at *
    generalize pf.fieldsz.getD j 0 = e at *
    generalize spanBits pf.fieldsz R = S at *
    generalize spanBits pf.fieldsz (j+1) = sq at *
    rw [Nat.pow_add, ← Nat.div_div_eq_div_mul, or_eq_add _ _ _ (Nat.mod_lt _ (Nat.two_pow_pos _)),
      mod_split, show f + (S - (sq + f)) = S - sq by omega]
    exact Nat.mod_eq_of_lt (mul_pow_lt (Nat.mod_lt _ (Nat.two_pow_pos _)) (by omega))

/-- `pgt_huge_page` below a block that spans fields `0 … R-1`. -/
theorem hugePage_spec (va R : Nat) (hne : 0 < s.idx.length)
    (hidx : ∀ i, i < R → s.idx.getD i 0 = va / 2^(spanBits pf.fieldsz i) % 2^(pf.fieldsz.getD i 0))
    (hrem : s.remain = R) (hR1 : 1 ≤ R) (hspan : spanBits pf.fieldsz R ≤ 64) :
    (hugePage pf s).remain = 1 ∧ (hugePage pf s).elemsz = 1 ∧ (hugePage pf s).base = s.base ∧
    idxAt (hugePage pf s) 0 = va % 2^(spanBits pf.fieldsz R) := by
  obtain ⟨j, rfl⟩ : ∃ j, R = j + 1 := ⟨R - 1, by omega⟩
  have hgo := hugePage_go_fold pf s va (j+1) hidx hspan j (j+1) (Nat.lt_succ_self j) (Nat.lt_succ_self j)
  rw [Nat.sub_self, Nat.pow_zero, Nat.mod_one, Nat.zero_mul] at hgo
  have h0 := hidx 0 hR1
  rw [span_zero, Nat.pow_zero, Nat.div_one] at h0
  have hge : fieldAt pf 0 ≤ spanBits pf.fieldsz (j+1) := by
    have := span_mono pf.fieldsz hR1
    rwa [span_one] at this
  unfold hugePage
  simp only [hrem, hgo, setIdx, idxAt]
  refine ⟨trivial, trivial, trivial, ?_⟩
  obtain ⟨a, as, hs⟩ : ∃ a as, s.idx = a :: as := by
    cases hs : s.idx with
    | nil => rw [hs] at hne; exact absurd hne (Nat.lt_irrefl 0)
    | cons a as => exact ⟨a, as, rfl⟩
  rw [hs] at h0 ⊢
  show a ||| _ = _
  rw [show a = va % 2^(fieldAt pf 0) from h0, or_eq_add' _ _ _ (Nat.mod_lt _ (Nat.two_pow_pos _)),
    Nat.add_comm, mod_split, Nat.add_sub_cancel' hge]

end

/-! ### the loop of `addrxlat_walk` -/

variable (extra : Extra) (mem : Mem) (m : Meth)

theorem walkLoop_last (fuel : Nat) (s : Step) (h : s.remain = 1) :
    walkLoop extra mem m (fuel + 1) s =
      .ok { s with remain := 0, elemsz := 0,
                   base := ⟨(s.base.addr + idxAt s 0 * s.elemsz) % W, m.targetAs⟩ } := by
  simp only [walkLoop, h, Nat.sub_self, if_true]

theorem walkLoop_step (fuel r : Nat) (s : Step) (h : s.remain = r + 2) :
    walkLoop extra mem m (fuel + 1) s =
      match nextStep extra mem m
          { s with remain := r + 1,
                   base := { s.base with addr := (s.base.addr + idxAt s (r + 1) * s.elemsz) % W } } with
      | .error e => .error e
      | .ok s2 => walkLoop extra mem m fuel s2 := by
  rw [walkLoop, h]; rfl

/-- The last round after a page descriptor: page base plus page offset. -/
theorem walkLoop_page (pf : PagingForm) (va fuel : Nat) (s : Step) (hidx : IdxOK pf va s.idx)
    (hlen : 0 < pf.fieldsz.length) (hrem : s.remain = 1) (hel : s.elemsz = 1) :
    (walkLoop extra mem m (fuel + 1) s).map (·.base) =
      .ok ⟨(s.base.addr + va % 2^(pf.fieldsz.getD 0 0)) % W, m.targetAs⟩ := by
  rw [walkLoop_last extra mem m fuel s hrem, hel, Nat.mul_one, idxAt, hidx.zero hlen]
  rfl

/-- The last round after a block descriptor at field `R`: block base plus offset in the block. -/
theorem walkLoop_huge (pf : PagingForm) (va fuel R : Nat) (s : Step) (hidx : IdxOK pf va s.idx)
    (hrem : s.remain = R) (hR1 : 1 ≤ R) (hR : R < pf.fieldsz.length) (hspan : spanBits pf.fieldsz R ≤ 64) :
    (walkLoop extra mem m (fuel + 1) (hugePage pf s)).map (·.base) =
      .ok ⟨(s.base.addr + va % 2^(spanBits pf.fieldsz R)) % W, m.targetAs⟩ := by
  obtain ⟨h1, h2, h3, h4⟩ := hugePage_spec pf s va R (Nat.zero_lt_of_lt hidx.1)
    (fun i hi => hidx.2 i (Nat.lt_trans hi hR)) hrem hR1 hspan
  rw [walkLoop_last extra mem m fuel _ h1, h2, h3, h4, Nat.mul_one]
  rfl

end Kdf.Lemmas.PgtWalk
