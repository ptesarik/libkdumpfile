import Kdf.Model.RCache
import Kdf.Lemmas.RCache
import Kdf.Model.Sys
import Kdf.Spec.ArchWalk
/-!
# C09, second part — reads through a re-entrant get-page callback terminate and
give back what they took; custom methods end where their callback says

`Kdf.Model.RCache.getBuf` transcribes `get_cache_buf`: a slot is marked while its get-page
callback runs, a nested fetch recycles the least recently used slot that is **not** marked, and
fails with NODATA when every slot is.  The theorems hold for **every** callback of the modelled
family (any `pre`, any outcome function), every cache state and address; they are projections of
the invariant `Kdf.Lemmas.RCache.getBuf_good`.
-/
namespace Kdf.Props.C09
open Kdf.Model.Pgt Kdf.Model.RCache Kdf.Lemmas.RCache

/-- Callbacks started by one `get_cache_buf` never nest deeper (and, in this callback family,
are never more) than the number of slots that are not being filled — whatever the callback reads
before it delivers a page, whatever the cache holds, whatever the recursion budget of the model. -/
theorem read_nesting_bounded (cb : Cb) (fuel : Nat) (c : RCache) (a : FullAddr) :
    (getBuf cb fuel c a).depth ≤ free c ∧ (getBuf cb fuel c a).calls ≤ free c ∧ free c ≤ c.slots.length :=
  ⟨(getBuf_good cb fuel c a).depth, (getBuf_good cb fuel c a).calls, free_le_length c⟩

/-- The recursion budget of the model is not what ends a read: with a budget of at least the
number of slots not being filled the out-of-budget arm is never taken (the C code has no
counter; it stops because the slot choice fails).  In particular for `read`. -/
theorem read_not_stuck (cb : Cb) (fuel : Nat) (c : RCache) (a : FullAddr) (h : free c ≤ fuel) :
    (getBuf cb fuel c a).stuck = false ∧ (read cb c a).stuck = false :=
  ⟨(getBuf_good cb fuel c a).stuck h, (getBuf_good cb _ c a).stuck (free_le_length c)⟩

/-- A read from outside on the four-slot cache: at most `READ_CACHE_SLOTS` nested callbacks. -/
theorem read_nesting_le_slots (cb : Cb) (c : RCache) (a : FullAddr) (h : c.slots.length = READ_CACHE_SLOTS) :
    (read cb c a).depth ≤ READ_CACHE_SLOTS := by
  have := read_nesting_bounded cb c.slots.length c a
  unfold Kdf.Model.RCache.read; omega

/-- The slot chosen for a fetch exists and is not being filled. -/
theorem filling_slot_never_chosen (c : RCache) (i : Nat) (h : pick c = some i) :
    i < c.slots.length ∧ (slotAt c i).filling = false := pick_usable h

/-- A slot that is being filled (by a callback further up the call chain) comes out of any
nested `get_cache_buf` exactly as it went in: address, size, data pointer and mark. -/
theorem filling_slot_untouched (cb : Cb) (fuel : Nat) (c : RCache) (a : FullAddr) (k : Nat)
    (h : (slotAt c k).filling = true) : slotAt (getBuf cb fuel c a).cache k = slotAt c k :=
  (getBuf_good cb fuel c a).frame k h

/-- Every call clears exactly the mark it set: afterwards the same slots are marked as before
(none, after a read from outside). -/
theorem filling_marks_restored (cb : Cb) (fuel : Nat) (c : RCache) (a : FullAddr) (k : Nat) :
    (slotAt (getBuf cb fuel c a).cache k).filling = (slotAt c k).filling :=
  (getBuf_good cb fuel c a).flags k

/-- Give-back.  Every buffer a callback delivered during the call is either still in a slot
afterwards or `put_page` was called for it: delivered + held before = put + held after.
(`held` counts the slots with `size != 0` that are not being refilled; `cleanup_cache` puts
exactly those when the context goes away.) -/
theorem read_gives_back (cb : Cb) (fuel : Nat) (c : RCache) (a : FullAddr) :
    (getBuf cb fuel c a).got + held c = (getBuf cb fuel c a).put + held (getBuf cb fuel c a).cache :=
  (getBuf_good cb fuel c a).ledger

theorem getBuf_hit (cb : Cb) (fuel : Nat) {c : RCache} {a : FullAddr} {i : Nat}
    (h : c.slots.findIdx? (·.covers a) = some i) : getBuf cb fuel c a = finish c i 0 0 0 0 false := by
  unfold getBuf
  rw [h]

/-- A read of an address some slot covers with data starts no callback: the slot is
returned and becomes the most recently used one. -/
theorem read_hit_no_callback (cb : Cb) (fuel : Nat) (c : RCache) (a : FullAddr) (i : Nat)
    (h : c.slots.findIdx? (·.covers a) = some i) (hp : (slotAt c i).ptr = true) :
    getBuf cb fuel c a = ⟨.ok i, touch c i, 0, 0, 0, 0, false⟩ := by
  rw [getBuf_hit cb fuel h, finish, if_pos hp]

/-- The library's guard.  The callback, asked for the page of `a` (which no slot covers), first
reads an object `e` that no slot covers either.  If the slot `i` chosen for `a` held a page before
and `e` lies in the window of that page's size behind `a` (same address space) — e.g. `e` is in
the page of `a`, at or behind it — the nested read finds the slot being filled and fails with
NODATA without starting another callback, and so does the fetch: one callback, nesting 1. -/
theorem read_self_fetch_detected (cb : Cb) (fuel : Nat) (c : RCache) (a e : FullAddr) (i : Nat)
    (hmiss : c.slots.findIdx? (·.covers a) = none) (hpick : pick c = some i)
    (hpre : cb.pre a = some e) (hcaps : capsHas cb.readCaps e.as = true)
    (hnone : ∀ s ∈ c.slots, s.covers e = false)
    (hwin : (e.addr + W - a.addr) % W < (slotAt c i).size) (has : a.as = e.as) :
    (getBuf cb (fuel+1) c a).res = .error .nodata ∧ (getBuf cb (fuel+1) c a).calls = 1 ∧
    (getBuf cb (fuel+1) c a).depth = 1 := by
  have hlt := (pick_usable hpick).1
  have hfind : (beginFill c i a).slots.findIdx? (·.covers e) = some i := by
    -- slot `i`, just rewritten, is the first (and only) one that covers `e`
    refine List.findIdx?_eq_some_iff_getElem.mpr ⟨(length_setSlot c i _).symm ▸ hlt, ?_, ?_⟩
    · simp [beginFill, setSlot, Slot.covers, hwin, has]
    · intro j hj
      simp only [beginFill, setSlot, List.getElem_set_ne (Nat.ne_of_gt hj)]
      rw [hnone _ (List.getElem_mem _)]
      nofun
  have hptr : (slotAt (beginFill c i a) i).ptr = false := by
    rw [beginFill, slotAt_setSlot_self hlt]
  have hin : getBuf cb fuel (beginFill c i a) e = ⟨.error .nodata, beginFill c i a, 0, 0, 0, 0, false⟩ := by
    rw [getBuf_hit cb fuel hfind, finish, hptr]
    rfl
  unfold getBuf
  simp [hmiss, hpick, preRead, hpre, hcaps, hin, deliver, failed]

/-! ## non-vacuity -/

/-- every page exists; the callback reads the frame-table entry of the page first:
the table starts at `base` in KPHYS, 8 bytes per page, pages below 8 are known -/
def p2mAt (base : Nat) : Cb :=
  ⟨1, fun a => if a.addr / PAGE < 8 then none else some ⟨base + a.addr / PAGE * 8, 0⟩, fun _ => .data⟩
def p2mCb : Cb := p2mAt 0x10000

/-- four earlier reads filled all slots -/
def warm : RCache :=
  (read p2mCb (read p2mCb (read p2mCb (read p2mCb init ⟨0x0, 0⟩).cache ⟨0x1000, 0⟩).cache ⟨0x2000, 0⟩).cache ⟨0x3000, 0⟩).cache

example : warm.order = [0, 1, 2, 3] ∧ (warm.slots.map (·.size)) = [4096, 4096, 4096, 4096] ∧ held warm = 4 := by decide

/-- page 0x10 holds its own table entry (0x10080).  Warm: the guard fires at once. -/
example : ((read p2mCb warm ⟨0x10048, 0⟩).status, (read p2mCb warm ⟨0x10048, 0⟩).calls, (read p2mCb warm ⟨0x10048, 0⟩).depth)
    = (.nodata, 1, 1) := by decide
/-- the hypotheses of `read_self_fetch_detected` hold in that state -/
example : warm.slots.findIdx? (·.covers ⟨0x10048, 0⟩) = none ∧ pick warm = some 3 ∧
    p2mCb.pre ⟨0x10048, 0⟩ = some ⟨0x10080, 0⟩ ∧ (∀ s ∈ warm.slots, s.covers ⟨0x10080, 0⟩ = false) ∧
    (0x10080 + W - 0x10048) % W < (slotAt warm 3).size := by decide
/-- Cold: the slot being filled has size 0 and matches nothing; each level marks one more slot,
the fifth fetch finds none: NODATA after four callbacks, all marks cleared, nothing held. -/
example : ((read p2mCb init ⟨0x10048, 0⟩).status, (read p2mCb init ⟨0x10048, 0⟩).calls, (read p2mCb init ⟨0x10048, 0⟩).depth,
    (read p2mCb init ⟨0x10048, 0⟩).cache.slots.map (·.filling), held (read p2mCb init ⟨0x10048, 0⟩).cache)
    = (.nodata, 4, 4, [false, false, false, false], 0) := by decide
/-- The table entry of page 0x20 lives in the readable page 4.  The nested fetch takes slot 2
(slot 3 is being filled), both pages are cached afterwards. -/
example : ((read (p2mAt 0x4000) init ⟨0x20000, 0⟩).res.toOption, (read (p2mAt 0x4000) init ⟨0x20000, 0⟩).calls,
    (read (p2mAt 0x4000) init ⟨0x20000, 0⟩).got, (read (p2mAt 0x4000) init ⟨0x20000, 0⟩).put,
    held (read (p2mAt 0x4000) init ⟨0x20000, 0⟩).cache, (read (p2mAt 0x4000) init ⟨0x20000, 0⟩).cache.order)
    = (some 3, 2, 2, 0, 2, [3, 2, 0, 1]) := by decide

/-! ## custom methods -/

open Kdf.Model.Sys in
/-- A custom method is its callback: the model's `addrxlat_walk` on a custom method equals the
specification (`Spec.ArchWalk.specXlat`) — where the callback completes the translation in its
first step the result carries the address space the callback chose, not `target_as`. -/
theorem walk_custom_eq_spec (extra : Extra) (mem : Mem) (t mask : Nat) (hit miss : CustomArm) (addr : Nat) :
    (walk extra mem (.custom t mask hit miss) addr).map (·.base) =
      Kdf.Spec.ArchWalk.specXlat mem (.custom t mask hit miss) addr := by
  simp only [walk, firstStep, firstStepCustom, Kdf.Spec.ArchWalk.specXlat]
  -- both sides look only at the arm of the callback the address selects
  generalize (if addr &&& mask ≠ 0 then hit else miss) = arm
  cases arm with
  | finish as off => rfl
  | step as off => simp [walkLoop, idxAt, Meth.targetAs, Except.map, Nat.add_comm]
  | fail st => rfl

open Kdf.Model.Sys in
/-- KV → (custom, declared KPHYS; addresses with
bit 12 set are "foreign" and come out as MACHPHYS) and MACHPHYS → KPHYS linear -/
def customSys : Sys :=
  ⟨[none, some [⟨W - 1, 0⟩], none, some [⟨W - 1, 1⟩], none],
   [.custom KPHYS 0x1000 (.finish MACHPHYS 0x800000) (.finish KPHYS 0x40000), .linear KPHYS (W - 0x500000)]
     ++ List.replicate 14 .nometh⟩
open Kdf.Model.Sys in
def customCfg : Cfg := ⟨some customSys, 0, fun _ _ _ => .ok 0⟩

open Kdf.Model.Sys in
/-- a caller that can only use KPHYS gets the foreign page through the second stage … -/
example : opTop customCfg 1 ⟨0x3456, KV⟩ = .call ⟨0x303456, KPHYS⟩ := by decide
open Kdf.Model.Sys in
/-- … and one that can use MACHPHYS gets it directly although the method declares KPHYS -/
example : opTop customCfg 2 ⟨0x3456, KV⟩ = .call ⟨0x803456, MACHPHYS⟩ := by decide
open Kdf.Model.Sys in
example : opTop customCfg 1 ⟨0x2345, KV⟩ = .call ⟨0x42345, KPHYS⟩ := by decide

end Kdf.Props.C09
