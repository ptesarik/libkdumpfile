import Kdf.Lemmas.CacheOps
/-!
Step-level consequences for the page-cache model (C06): preservation of the invariant, absence
of undefined behaviour, histories.
-/
namespace Kdf.Lemmas.Cache
open Kdf.Model.Cache Kdf.Lemmas.CacheList

/-- all fields of `Inv` except `inflight_ref` -/
def WInv (c : Cache) : Prop := InvS c False

theorem inv_iff_winv (c : Cache) : Inv c ↔ WInv c ∧ ∀ i ∈ c.F, c.refcnt i ≠ 0 := by
  rw [inv_iff]
  constructor
  · intro h
    exact ⟨h.weaken (fun f => f.elim), h.2.inflight_ref trivial⟩
  · rintro ⟨h, hr⟩
    exact ⟨h.1, { h.2 with inflight_ref := fun _ => hr }⟩

theorem Inv.winv {c : Cache} (h : Inv c) : WInv c := ((inv_iff_winv c).1 h).1

theorem GetFrame.stepFrame {c c' : Cache} (h : GetFrame c c') : StepFrame c c' :=
  fun i hi => (h.cach i hi).2

theorem step_spec {c : Cache} {st : Prop} (h : InvS c st) {op : Op} {c' : Cache} {o : Out}
    (hs : step c op = .ok (c', o)) (hput : st → putOk c op) : InvS c' st ∧ StepFrame c c' := by
  cases op with
  | get k =>
    obtain ⟨hI, -, hfr, -⟩ := get_spec_of_ok h (k := k) hs
    exact ⟨hI, hfr.stepFrame⟩
  | insert e => exact insert_spec h hs
  | put e => exact put_spec h hs hput
  | discard e => exact discard_spec h hs

theorem step_no_ub {c : Cache} {st : Prop} (h : InvS c st) (op : Op) (w : String) :
    step c op ≠ .error (.ub w) := by
  cases op with
  | get k =>
    obtain ⟨c'', o', hg, -⟩ := get_spec h k
    intro (he : Kdf.Model.Cache.get c k = _)
    rw [hg] at he
    cases he
  -- the other operations end in `.ok` or in a `proto` error on every path
  | insert e =>
    intro (h : Kdf.Model.Cache.insert c e = _)
    unfold Kdf.Model.Cache.insert at h
    repeat' split at h
    all_goals cases h
  | put e =>
    intro (h : Kdf.Model.Cache.put c e = _)
    unfold Kdf.Model.Cache.put at h
    split at h <;> cases h
  | discard e =>
    intro (h : Kdf.Model.Cache.discard c e = _)
    unfold Kdf.Model.Cache.discard at h
    simp only [] at h
    repeat' split at h
    all_goals cases h

theorem run_inv {st : Prop} : ∀ (ops : List Op) (c c' : Cache), InvS c st → (st → runOk c ops) →
    run c ops = .ok c' → InvS c' st
  | [], c, c', h, _, hr => by
    simp only [run, Except.ok.injEq] at hr
    exact hr ▸ h
  | op :: ops, c, c', h, hok, hr => by
    unfold run at hr
    cases hs : step c op with
    | error e => rw [hs] at hr; cases hr
    | ok r =>
      obtain ⟨c1, o⟩ := r
      rw [hs] at hr
      simp only [] at hr
      have h1 := (step_spec h hs (fun x => (hok x).1)).1
      refine run_inv ops c1 c' h1 (fun x => ?_) hr
      have := (hok x).2
      rw [hs] at this
      exact this

theorem inv_unique_buffer {c : Cache} {st : Prop} (h : InvS c st) {i j : Nat} (hi : i < 2 * c.cap)
    (hj : j < 2 * c.cap) (hne : i ≠ j) {d : Nat} (hd : c.dataOf i = some d) : c.dataOf j ≠ some d := by
  have hb := h.2.bufs
  simp only [List.nil_append, abs_cap, abs_ent] at hb
  have hn : ((List.range (2 * c.cap)).filterMap (fun i => (c.ent i).data)).Nodup :=
    hb.nodup_iff.2 List.nodup_range
  exact filterMap_nodup_inj hn (List.mem_range.2 hi) (List.mem_range.2 hj) hne hd

theorem get_busy_eq {c c' : Cache} {k : Nat} (hs : Kdf.Model.Cache.get c k = .ok (c', .busy)) :
    c' = c := by
  cases hP : c.P.find? (fun i => c.key i = k) with
  | some e => rw [get_P hP] at hs; cases hs
  | none =>
  cases hB : c.B.reverse.find? (fun i => c.key i = k) with
  | some e => rw [get_B hP hB] at hs; cases hs
  | none =>
  cases hF : c.F.find? (fun i => c.key i = k) with
  | some e => rw [get_F hP hB hF] at hs; cases hs
  | none =>
  by_cases hb : c.pinned + c.F.length ≥ c.cap
  · rw [get_busy hP hB hF hb] at hs
    simp only [Except.ok.injEq, Prod.mk.injEq, and_true] at hs
    exact hs.symm
  · cases hGP : c.GP.find? (fun i => c.key i = k) with
    | some e =>
      obtain ⟨d, hget⟩ := get_GP hP hB hF hb hGP
      obtain ⟨_, -, h⟩ := bind_eq_ok.1 (hget ▸ hs)
      cases h
    | none =>
    cases hGB : c.GB.reverse.find? (fun i => c.key i = k) with
    | some e =>
      obtain ⟨d, hget⟩ := get_GB hP hB hF hb hGP hGB
      obtain ⟨_, -, h⟩ := bind_eq_ok.1 (hget ▸ hs)
      cases h
    | none =>
      obtain ⟨_, -, h⟩ := bind_eq_ok.1 (get_miss hP hB hF hb hGP hGB ▸ hs)
      cases h

end Kdf.Lemmas.Cache
