import Kdf.Model.Read
/-! The vocabulary of C12 and the invariants of its two loops. -/
namespace Kdf.Lemmas.Read
open Kdf.Model.Read

/-- The byte the dump provides at address `a` of address space `as`, if the
page containing it can be fetched. -/
def memAt (ps : Nat) (pages : Oracle) (as a : Nat) : Option Byte :=
  match pages as (pageAlign ps a) with
  | .ok d => d[a % ps]?
  | .error _ => none

/-- The oracle returns whole pages. -/
def PagesWF (ps : Nat) (pages : Oracle) : Prop :=
  ∀ as p d, pages as p = .ok d → d.length = ps

/-- A failing page fetch reports a non-OK status (the C code distinguishes
success from failure only by `ret != KDUMP_OK`). -/
def OracleSound (pages : Oracle) : Prop := ∀ as p, pages as p ≠ .error .ok

/-- The page containing address `a` can be fetched. -/
def PageOk (ps : Nat) (pages : Oracle) (as a : Nat) : Prop :=
  ∃ d, pages as (pageAlign ps a) = .ok d

variable {ps : Nat} {pages : Oracle} {as : Nat}

theorem mod_add_lt {a i : Nat} (h : a % ps + i < ps) : (a + i) % ps = a % ps + i := by
  have hd := Nat.div_add_mod a ps
  have e : a + i = (a % ps + i) + ps * (a / ps) := by omega
  rw [e, Nat.add_mul_mod_self_left, Nat.mod_eq_of_lt h]

theorem pageAlign_add_lt {a i : Nat} (h : a % ps + i < ps) :
    pageAlign ps (a + i) = pageAlign ps a := by
  unfold pageAlign
  rw [mod_add_lt h]
  have := Nat.mod_le a ps
  omega

theorem mod_add_rest (a : Nat) (hps : 0 < ps) : (a + (ps - a % ps)) % ps = 0 := by
  have hd := Nat.div_add_mod a ps
  have hlt := Nat.mod_lt a hps
  have e : a + (ps - a % ps) = ps * (a / ps) + ps := by omega
  rw [e, Nat.add_mod_right, Nat.mul_mod_right]

theorem memAt_some_pageOk {a : Nat} {b : Byte} (h : memAt ps pages as a = some b) :
    PageOk ps pages as a := by
  unfold memAt at h
  unfold PageOk
  split at h
  · exact ⟨_, by assumption⟩
  · cases h

/-- The bytes a loop takes from the page at `addr`, `k` at most the rest of the page. -/
theorem take_page (hps : 0 < ps) (hwf : PagesWF ps pages) {addr : Nat} {data : List Byte}
    (hp : pages as (pageAlign ps addr) = .ok data) {k : Nat} (hk : k ≤ ps - addr % ps) :
    ((data.drop (addr % ps)).take k).length = k ∧
    ∀ i, i < k → memAt ps pages as (addr + i) = ((data.drop (addr % ps)).take k)[i]? := by
  have hdl : data.length = ps := hwf _ _ _ hp
  have hoff : addr % ps < ps := Nat.mod_lt _ hps
  refine ⟨by rw [List.length_take, List.length_drop]; omega, ?_⟩
  intro i hi
  have hin : addr % ps + i < ps := by omega
  unfold memAt
  rw [pageAlign_add_lt hin, mod_add_lt hin, hp, List.getElem?_take, if_pos hi, List.getElem?_drop]

/-- How both loops extend what they have delivered by the bytes of the next page. -/
theorem forall_append_index {P : Nat → Option Byte → Prop} (l1 l2 : List Byte)
    (h1 : ∀ i, i < l1.length → P i l1[i]?) (h2 : ∀ i, i < l2.length → P (l1.length + i) l2[i]?) :
    ∀ i, i < (l1 ++ l2).length → P i (l1 ++ l2)[i]? := by
  intro i hi
  by_cases h : i < l1.length
  · rw [List.getElem?_append_left h]; exact h1 i h
  · have hle := Nat.le_of_not_lt h
    rw [List.length_append] at hi
    rw [List.getElem?_append_right hle]
    have := h2 (i - l1.length) (by omega)
    rwa [Nat.add_sub_of_le hle] at this

theorem readLoop_zero (fuel addr : Nat) (acc : List Byte) :
    readLoop ps pages as fuel addr 0 acc = (.ok, acc) := by
  cases fuel with
  | zero => rfl
  | succ f => unfold readLoop; rfl

theorem readLoop_len_le :
    ∀ (fuel addr remain : Nat) (acc : List Byte),
      (readLoop ps pages as fuel addr remain acc).2.length ≤ acc.length + remain := by
  intro fuel
  induction fuel with
  | zero => intro addr remain acc; exact Nat.le_add_right _ _
  | succ fuel ih =>
    intro addr remain acc
    unfold readLoop
    by_cases hr : remain = 0
    · rw [if_pos hr]; exact Nat.le_add_right _ _
    · rw [if_neg hr]
      cases pages as (pageAlign ps addr) with
      | error e => exact Nat.le_add_right _ _
      | ok data =>
        dsimp only
        have hk : min (ps - addr % ps) remain ≤ remain := Nat.min_le_right _ _
        generalize min (ps - addr % ps) remain = k at hk ⊢
        refine Nat.le_trans (ih _ _ _) ?_
        rw [List.length_append, List.length_take]
        omega

/-- Loop invariant of `readLoop`: the output is the accumulator followed by a
correct prefix `del` of the requested range; either the whole range was
delivered and the status is `ok`, or delivery stopped at the start of a page
(or at the start address) whose fetch failed with the returned status. -/
theorem readLoop_spec (hps : 0 < ps) (hwf : PagesWF ps pages) :
    ∀ (fuel addr remain : Nat) (acc : List Byte) (st : Status) (out : List Byte),
      remain ≤ fuel → addr + remain ≤ W →
      readLoop ps pages as fuel addr remain acc = (st, out) →
      ∃ del, out = acc ++ del ∧
        (∀ i, i < del.length → memAt ps pages as (addr + i) = del[i]?) ∧
        ((del.length = remain ∧ st = .ok) ∨
         (del.length < remain ∧
           pages as (pageAlign ps (addr + del.length)) = .error st ∧
           (del.length = 0 ∨ (addr + del.length) % ps = 0))) := by
  intro fuel
  induction fuel with
  | zero =>
    intro addr remain acc st out hf hw h
    cases h
    exact ⟨[], (List.append_nil _).symm, fun _ hi => absurd hi (Nat.not_lt_zero _),
      Or.inl ⟨(Nat.le_zero.mp hf).symm, rfl⟩⟩
  | succ fuel ih =>
    intro addr remain acc st out hf hw h
    unfold readLoop at h
    by_cases hr : remain = 0
    · rw [if_pos hr] at h
      cases h
      exact ⟨[], (List.append_nil _).symm, fun _ hi => absurd hi (Nat.not_lt_zero _),
        Or.inl ⟨hr.symm, rfl⟩⟩
    · rw [if_neg hr] at h
      cases hp : pages as (pageAlign ps addr) with
      | error e =>
        rw [hp] at h
        cases h
        exact ⟨[], (List.append_nil _).symm, fun _ hi => absurd hi (Nat.not_lt_zero _),
          Or.inr ⟨Nat.pos_of_ne_zero hr, hp, Or.inl rfl⟩⟩
      | ok data =>
        rw [hp] at h
        dsimp only at h
        have hoff : addr % ps < ps := Nat.mod_lt _ hps
        generalize hpl : min (ps - addr % ps) remain = k at h
        obtain ⟨hlen, hget⟩ := take_page hps hwf hp (k := k) (by omega)
        generalize (data.drop (addr % ps)).take k = part at h hlen hget
        by_cases hrem : remain - k = 0
        · rw [hrem, readLoop_zero] at h
          cases h
          exact ⟨part, rfl, fun i hi => hget i (hlen ▸ hi), Or.inl ⟨by omega, rfl⟩⟩
        · rw [Nat.mod_eq_of_lt (show addr + k < W by omega)] at h
          obtain ⟨del', hout, hbytes, hcase⟩ :=
            ih (addr + k) (remain - k) (acc ++ part) st out (by omega) (by omega) h
          refine ⟨part ++ del', by rw [hout, List.append_assoc], ?_, ?_⟩
          · refine forall_append_index (P := fun i o => memAt ps pages as (addr + i) = o) part del'
              (fun i hi => hget i (hlen ▸ hi)) fun i hi => ?_
            rw [hlen, ← Nat.add_assoc]; exact hbytes i hi
          · rw [List.length_append, hlen, ← Nat.add_assoc]
            rcases hcase with ⟨hl, hs⟩ | ⟨hl, hpg, hal⟩
            · exact Or.inl ⟨by omega, hs⟩
            · refine Or.inr ⟨by omega, hpg, Or.inr ?_⟩
              rcases hal with h0 | h0
              · -- the failing page follows directly: this chunk went to the end of its page
                rw [h0, Nat.add_zero, show k = ps - addr % ps by omega]
                exact mod_add_rest addr hps
              · exact h0

/-- The first `n` bytes of `l` exist and none is NUL. -/
def NoNul (l : List Byte) (n : Nat) : Prop := ∀ i, i < n → ∃ b, l[i]? = some b ∧ b ≠ 0

theorem NoNul.cons {b : Byte} {bs : List Byte} {n : Nat} (hb : b ≠ 0) (h : NoNul bs n) :
    NoNul (b :: bs) (n + 1)
  | 0, _ => ⟨b, rfl, hb⟩
  | i + 1, hi => h i (Nat.lt_of_succ_lt_succ hi)

theorem NoNul.tail {b : Byte} {bs : List Byte} {n : Nat} (h : NoNul (b :: bs) (n + 1)) :
    b ≠ 0 ∧ NoNul bs n :=
  let ⟨_, hc, hc0⟩ := h 0 (Nat.zero_lt_succ n)
  ⟨Option.some.inj hc ▸ hc0, fun i hi => h (i + 1) (Nat.succ_lt_succ hi)⟩

theorem findNul_spec : ∀ l : List Byte,
    match findNul l with
    | some k => l[k]? = some 0 ∧ NoNul l k
    | none => NoNul l l.length
  | [] => fun _ hi => absurd hi (Nat.not_lt_zero _)
  | b :: bs => by
    unfold findNul
    by_cases hb : b = 0
    · rw [if_pos hb]
      exact ⟨congrArg some hb, fun _ hi => absurd hi (Nat.not_lt_zero _)⟩
    · rw [if_neg hb]
      have ih := findNul_spec bs
      generalize findNul bs = r at ih
      cases r with
      | none => exact ih.cons hb
      | some k => exact ⟨ih.1, ih.2.cons hb⟩

theorem findNul_eq_some : ∀ (l : List Byte) (k : Nat), l[k]? = some 0 → NoNul l k →
    findNul l = some k
  | [], _, hk, _ => nomatch hk
  | b :: bs, 0, hk, _ => by unfold findNul; rw [if_pos (Option.some.inj hk)]
  | b :: bs, k + 1, hk, hpre => by
    unfold findNul
    rw [if_neg hpre.tail.1, findNul_eq_some bs k hk hpre.tail.2]
    rfl

theorem findNul_eq_none : ∀ (l : List Byte), NoNul l l.length → findNul l = none
  | [], _ => rfl
  | b :: bs, hall => by
    unfold findNul
    rw [if_neg hall.tail.1, findNul_eq_none bs hall.tail.2]
    rfl

theorem strLoop_fail_none (allocOk : Nat → Bool) :
    ∀ (fuel addr iter : Nat) (acc : List Byte) (e : Status) (r : Option (List Byte)),
      strLoop ps pages as allocOk fuel addr iter acc = (e, r) → e ≠ .ok → r = none := by
  intro fuel
  induction fuel with
  | zero =>
    intro addr iter acc e r h he
    unfold strLoop at h
    cases h; rfl
  | succ fuel ih =>
    intro addr iter acc e r h he
    unfold strLoop at h
    split at h
    · cases h; rfl
    · dsimp only at h
      split at h
      · split at h
        · cases h; exact absurd rfl he
        · cases h; rfl
      · split at h
        · exact ih _ _ _ _ _ h he
        · cases h; rfl

theorem strLoop_ok_spec (hps : 0 < ps) (hwf : PagesWF ps pages) (allocOk : Nat → Bool) :
    ∀ (fuel addr iter : Nat) (acc s : List Byte),
      strLoop ps pages as allocOk fuel addr iter acc = (.ok, some s) →
      ∃ del, s = acc ++ del ∧
        (addr + del.length < W →
          (∀ i, i < del.length →
            ∃ b, memAt ps pages as (addr + i) = some b ∧ b ≠ 0 ∧ del[i]? = some b) ∧
          memAt ps pages as (addr + del.length) = some 0) := by
  intro fuel
  induction fuel with
  | zero => intro addr iter acc s h; cases h
  | succ fuel ih =>
    intro addr iter acc s h
    unfold strLoop at h
    cases hp : pages as (pageAlign ps addr) with
    | error e => rw [hp] at h; cases h
    | ok data =>
      rw [hp] at h
      dsimp only at h
      obtain ⟨hclen, hcget⟩ := take_page hps hwf hp (Nat.le_refl _)
      generalize (data.drop (addr % ps)).take (ps - addr % ps) = chunk at h hclen hcget
      have hoff : addr % ps < ps := Nat.mod_lt _ hps
      have hnul := findNul_spec chunk
      cases hn : findNul chunk with
      | some k =>
        rw [hn] at h hnul
        dsimp only at h
        by_cases ha : allocOk iter = true
        · rw [if_pos ha] at h
          cases h
          obtain ⟨hk0, hkpre⟩ := hnul
          obtain ⟨hkl, _⟩ := List.getElem?_eq_some_iff.mp hk0
          have htl : (chunk.take k).length = k := by rw [List.length_take]; omega
          refine ⟨chunk.take k, rfl, fun _ => ⟨?_, ?_⟩⟩
          · intro i hi
            rw [htl] at hi
            obtain ⟨b, hb, hb0⟩ := hkpre i hi
            refine ⟨b, ?_, hb0, ?_⟩
            · rw [hcget i (by omega)]; exact hb
            · rw [List.getElem?_take, if_pos hi]; exact hb
          · rw [htl, hcget k (by omega)]; exact hk0
        · rw [if_neg ha] at h; cases h
      | none =>
        rw [hn] at h hnul
        dsimp only at h
        by_cases ha : allocOk iter = true
        · rw [if_pos ha] at h
          obtain ⟨del', hs, hrest⟩ := ih _ _ _ _ h
          refine ⟨chunk ++ del', by rw [hs, List.append_assoc], ?_⟩
          rw [List.length_append, hclen]
          intro hw
          rw [Nat.mod_eq_of_lt (show addr + (ps - addr % ps) < W by omega)] at hrest
          obtain ⟨hb', hz'⟩ := hrest (by omega)
          refine ⟨?_, by rw [← Nat.add_assoc]; exact hz'⟩
          rw [← hclen, ← List.length_append]
          refine forall_append_index
            (P := fun i o => ∃ b, memAt ps pages as (addr + i) = some b ∧ b ≠ 0 ∧ o = some b)
            chunk del' (fun i hi => ?_) fun i hi => ?_
          · obtain ⟨b, hb, hb0⟩ := hnul i hi
            exact ⟨b, by rw [hcget i (hclen ▸ hi)]; exact hb, hb0, hb⟩
          · rw [hclen, ← Nat.add_assoc]; exact hb' i hi
        · rw [if_neg ha] at h; cases h

theorem strLoop_total (hps : 0 < ps) (hwf : PagesWF ps pages) :
    ∀ (fuel addr n iter : Nat) (acc : List Byte),
      addr + n < W →
      (∀ i, i < n → ∃ b, memAt ps pages as (addr + i) = some b ∧ b ≠ 0) →
      memAt ps pages as (addr + n) = some 0 → n < fuel →
      ∃ del, strLoop ps pages as (fun _ => true) fuel addr iter acc = (.ok, some (acc ++ del)) ∧
        del.length = n := by
  intro fuel
  induction fuel with
  | zero => intro addr n iter acc _ _ _ hf; omega
  | succ fuel ih =>
    intro addr n iter acc hw hpre hnul hf
    -- the byte at `addr` exists (it is the NUL or a byte in front of it), so its page does
    obtain ⟨data, hp⟩ : PageOk ps pages as addr := by
      cases n with
      | zero => exact memAt_some_pageOk hnul
      | succ m =>
        obtain ⟨b, hb, _⟩ := hpre 0 (Nat.zero_lt_succ m)
        exact memAt_some_pageOk hb
    unfold strLoop
    rw [hp]
    dsimp only
    obtain ⟨hclen, hcget⟩ := take_page hps hwf hp (Nat.le_refl _)
    have hr : 0 < ps - addr % ps := Nat.sub_pos_of_lt (Nat.mod_lt _ hps)
    generalize ps - addr % ps = r at hclen hcget hr ⊢
    generalize (data.drop (addr % ps)).take r = chunk at hclen hcget ⊢
    by_cases hn : n < r
    · rw [findNul_eq_some chunk n (by rw [← hcget n hn]; exact hnul)
        fun i hi => by rw [← hcget i (Nat.lt_trans hi hn)]; exact hpre i hi]
      exact ⟨chunk.take n, rfl, by rw [List.length_take]; omega⟩
    · rw [findNul_eq_none chunk fun i hi => by
        rw [← hcget i (hclen ▸ hi)]; exact hpre i (by omega)]
      dsimp only
      rw [if_pos rfl, Nat.mod_eq_of_lt (show addr + r < W by omega)]
      obtain ⟨del', hs, hl⟩ := ih (addr + r) (n - r) (iter + 1) (acc ++ chunk) (by omega)
        (fun i hi => by rw [Nat.add_assoc]; exact hpre (r + i) (by omega))
        (by rw [Nat.add_assoc, Nat.add_sub_of_le (Nat.le_of_not_lt hn)]; exact hnul)
        (by omega)
      exact ⟨chunk ++ del', by rw [hs, List.append_assoc],
        by rw [List.length_append, hclen, hl]; omega⟩

end Kdf.Lemmas.Read
