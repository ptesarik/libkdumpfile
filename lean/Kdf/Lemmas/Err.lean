import Kdf.Model.Err
/-! Invariant and specification notions for the error-message buffer (C16). -/
namespace Kdf.Lemmas.Err
open Kdf.Model.Err

/-- a message is a C string: no NUL inside, bytes are bytes -/
def MsgWF (m : List Byte) : Prop := ∀ b ∈ m, b ≠ 0 ∧ b < 256

/-- well-formed buffer object: the inline buffer has `bufsz ≥ 2` bytes, the
string pointer is NULL or points at a NUL-terminated string that lies entirely
inside the inline buffer or inside the heap block (there at offset 0 or 1), and
no out-of-bounds access has happened -/
structure Inv (e : ErrBuf) : Prop where
  bufsz_ge : 2 ≤ e.bufsz
  buf_len : e.buf.length = e.bufsz
  no_oob : e.oob = false
  str_ok : match e.str with
    | .null => True
    | .inBuf o => o < e.bufsz ∧ ∃ n, o + n < e.bufsz ∧ e.buf[o + n]? = some 0 ∧ ∀ i, i < n → ∃ b, e.buf[o + i]? = some b ∧ b ≠ 0
    | .inDyn o => ∃ d, e.dyn = some d ∧ o ≤ 1 ∧ ∃ n, o + n < d.length ∧ d[o + n]? = some 0 ∧ ∀ i, i < n → ∃ b, d[o + i]? = some b ∧ b ≠ 0

/-- bytes still free in front of the current string (`remain` of the C code) -/
def room (e : ErrBuf) : Nat :=
  if text e = [] then e.bufsz - 1
  else match e.str with
    | .inBuf o => o
    | .inDyn o => o
    | .null => e.bufsz - 1

/-- the chain: new message, then ": " and the old text if there is one -/
def chain (msg old : List Byte) : List Byte := if old = [] then msg else msg ++ delim ++ old

/-- one API operation on the buffer -/
inductive Op
  | add (msg : List Byte) (allocOk : Bool)
  | clear
  deriving Repr

def Op.wf : Op → Prop
  | .add m _ => MsgWF m
  | .clear => True

def step (e : ErrBuf) : Op → ErrBuf
  | .add m a => vadd e m a
  | .clear => clear e

end Kdf.Lemmas.Err
