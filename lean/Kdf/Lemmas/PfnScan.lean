import Kdf.Lemmas.Pfn
/-! Bit scans: one byte as C computes it, then the bitmap. -/
namespace Kdf.Lemmas.Pfn
open Kdf.Model.Pfn

/-- LSB0 bit `t` of byte `b` -/
def tbL (b t : Nat) : Bool := b / 2^t % 2 = 1
/-- MSB0 bit `t` of byte `b` -/
def tbM (b t : Nat) : Bool := b / 2^(7 - t) % 2 = 1
def tbOf (msb0 : Bool) (b t : Nat) : Bool := if msb0 then tbM b t else tbL b t

theorem bitL_eq (bm : Bitmap) (i : Nat) : bitL bm i = tbL (byteAt bm (i/8)) (i%8) := rfl
theorem bitM_eq (bm : Bitmap) (i : Nat) : bitM bm i = tbM (byteAt bm (i/8)) (i%8) := rfl
theorem bitOf_eq (msb0 : Bool) (bm : Bitmap) (i : Nat) :
    bitOf msb0 bm i = tbOf msb0 (byteAt bm (i/8)) (i%8) := by
  cases msb0 <;> rfl

theorem tbL_testBit (b t : Nat) : tbL b t = b.testBit t := by
  simp [tbL, Nat.testBit_eq_decide_div_mod_eq]

theorem tbM_testBit (b t : Nat) : tbM b t = b.testBit (7 - t) := tbL_testBit b (7 - t)

theorem byteAt_lt {bm : Bitmap} (hb : BytesWF bm) (j : Nat) : byteAt bm j < 256 := by
  unfold byteAt
  rw [List.getD_eq_getElem?_getD]
  by_cases h : j < bm.length
  · rw [List.getElem?_eq_getElem h]; exact hb _ (List.getElem_mem h)
  · rw [List.getElem?_eq_none (by omega)]; simp

theorem byteAt_getElem (bm : Bitmap) (j : Nat) (h : j < bm.length) : byteAt bm j = bm[j] := by
  unfold byteAt
  rw [List.getD_eq_getElem?_getD, List.getElem?_eq_getElem h]; rfl

theorem byteAt_zero (n j : Nat) : byteAt (List.replicate n 0) j = 0 := by
  unfold byteAt
  rw [List.getD_eq_getElem?_getD, List.getElem?_replicate]
  split <;> rfl

/-- what a first-byte scan from bit `k` of byte `b` must return when looking for
the first bit equal to `want` -/
def FirstOK (bit : Nat → Nat → Bool) (want : Bool) (b k : Nat) : Option Nat → Prop
  | some c => k + c < 8 ∧ bit b (k+c) = want ∧ ∀ t, t < c → bit b (k+t) = !want
  | none => ∀ t, t < 8 → k ≤ t → bit b t = !want

/-- C: `if (val) return pfn + ctz(val);` -/
def cntIfNonzero (cnt : Nat → Nat) (v : Nat) : Option Nat := if v ≠ 0 then some (cnt v) else none

theorem ctz_spec : ∀ fuel v, v ≠ 0 → v < 2^fuel →
    ctz fuel v < fuel ∧ tbL v (ctz fuel v) = true ∧ ∀ t, t < ctz fuel v → tbL v t = false := by
  intro fuel
  induction fuel with
  | zero => intro v h0 h; omega
  | succ fuel ih =>
    intro v h0 h
    unfold ctz
    split
    · rename_i h1
      exact ⟨by omega, by simp [tbL, h1], fun t ht => by omega⟩
    · rename_i h1
      obtain ⟨i1, i2, i3⟩ := ih (v / 2) (by omega) (by omega)
      have hs : ∀ t, tbL v (t + 1) = tbL (v / 2) t := fun t => by
        simp only [tbL_testBit, Nat.testBit_succ]
      refine ⟨by omega, by rw [Nat.add_comm, hs]; exact i2, ?_⟩
      intro t ht
      cases t with
      | zero => simp [tbL, h1]
      | succ t => rw [hs]; exact i3 t (by omega)

theorem clz8_spec : ∀ v, v < 256 → v ≠ 0 →
    clz8 v < 8 ∧ tbM v (clz8 v) = true ∧ ∀ t, t < clz8 v → tbM v t = false := by
  decide +kernel

theorem cntIfNonzero_spec {bit : Nat → Nat → Bool} {cnt : Nat → Nat} {v : Nat} (h0 : ∀ t, bit 0 t = false)
    (hc : v ≠ 0 → cnt v < 8 ∧ bit v (cnt v) = true ∧ ∀ t, t < cnt v → bit v t = false) :
    FirstOK bit true v 0 (cntIfNonzero cnt v) := by
  unfold cntIfNonzero
  by_cases hv : v = 0
  · subst hv
    exact fun t _ _ => h0 t
  · rw [if_pos hv]
    obtain ⟨h1, h2, h3⟩ := hc hv
    exact ⟨by omega, by rw [Nat.zero_add]; exact h2, fun t ht => by rw [Nat.zero_add]; exact h3 t ht⟩

theorem cntIfNonzero_ctz {v : Nat} (hv : v < 256) : FirstOK tbL true v 0 (cntIfNonzero (ctz 8) v) :=
  cntIfNonzero_spec (fun _ => by simp [tbL]) fun h0 => ctz_spec 8 v h0 hv

theorem cntIfNonzero_clz8 {v : Nat} (hv : v < 256) : FirstOK tbM true v 0 (cntIfNonzero clz8 v) :=
  cntIfNonzero_spec (fun _ => by simp [tbM]) (clz8_spec v hv)

section
variable {bit : Nat → Nat → Bool}

/-- `v` is `b` moved down by `k` positions with zeros moved in -/
theorem FirstOK.shift {b v k : Nat}
    (hv : ∀ t, t < 8 → bit v t = (decide (k + t < 8) && bit b (k + t))) {o : Option Nat}
    (h : FirstOK bit true v 0 o) : FirstOK bit true b k o := by
  cases o with
  | some c =>
    obtain ⟨h1, h2, h3⟩ := h
    rw [Nat.zero_add] at h1 h2
    have hc := hv c h1
    rw [h2] at hc
    simp only [Bool.true_eq, Bool.and_eq_true, decide_eq_true_eq] at hc
    refine ⟨hc.1, hc.2, ?_⟩
    intro t ht
    have := h3 t ht
    rw [Nat.zero_add, hv t (by omega), decide_eq_true (by omega : k + t < 8)] at this
    exact this
  | none =>
    intro t ht hkt
    have := h (t - k) (by omega) (Nat.zero_le _)
    rw [hv _ (by omega), decide_eq_true (by omega : k + (t - k) < 8)] at this
    have e : k + (t - k) = t := by omega
    rw [e] at this
    exact this

theorem FirstOK.compl {b k : Nat} (hc : ∀ t, t < 8 → bit (255 - b) t = !bit b t)
    {o : Option Nat} (h : FirstOK bit true (255 - b) k o) : FirstOK bit false b k o := by
  cases o with
  | some c =>
    obtain ⟨h1, h2, h3⟩ := h
    refine ⟨h1, ?_, ?_⟩
    · rw [hc _ h1] at h2; simpa using h2
    · intro t ht
      have := h3 t ht
      rw [hc _ (by omega)] at this; simpa using this
  | none =>
    intro t ht hkt
    have := h t ht hkt
    rw [hc t ht] at this; simpa using this


theorem tbL_shr {b : Nat} (hb : b < 256) (k t : Nat) :
    tbL (b / 2^k) t = (decide (k + t < 8) && tbL b (k + t)) := by
  rw [tbL_testBit, tbL_testBit, Nat.testBit_div_two_pow, Nat.add_comm t k]
  by_cases h : k + t < 8
  · simp [h]
  · rw [Nat.testBit_lt_two_pow (Nat.lt_of_lt_of_le hb (Nat.pow_le_pow_right Nat.two_pos (by omega : 8 ≤ k + t)))]
    simp

theorem tbM_shl (b k : Nat) {t : Nat} (ht : t < 8) :
    tbM (b * 2^k % 256) t = (decide (k + t < 8) && tbM b (k + t)) := by
  rw [tbM_testBit, tbM_testBit, show 256 = 2^8 from rfl, Nat.testBit_mod_two_pow, Nat.testBit_mul_two_pow,
    decide_eq_true (by omega : 7 - t < 8), Bool.true_and, show 7 - t - k = 7 - (k + t) by omega]
  congr 1
  exact decide_eq_decide.mpr (by omega)

theorem tbL_compl {b : Nat} (hb : b < 256) {t : Nat} (ht : t < 8) : tbL (255 - b) t = !tbL b t := by
  rw [tbL_testBit, tbL_testBit, show 255 - b = 2^8 - (b + 1) by omega, Nat.testBit_two_pow_sub_succ hb,
    decide_eq_true ht, Bool.true_and]

theorem tbM_compl {b : Nat} (hb : b < 256) {t : Nat} (ht : t < 8) : tbM (255 - b) t = !tbM b t :=
  tbL_compl hb (by omega)

theorem first_clearL {b : Nat} (hb : b < 256) (k : Nat) :
    FirstOK tbL true b k (cntIfNonzero (ctz 8) (b / 2^k)) :=
  (cntIfNonzero_ctz (Nat.lt_of_le_of_lt (Nat.div_le_self _ _) hb)).shift fun t _ => tbL_shr hb k t

theorem first_clearM (b k : Nat) : FirstOK tbM true b k (cntIfNonzero clz8 (b * 2^k % 256)) :=
  (cntIfNonzero_clz8 (Nat.mod_lt _ (by omega))).shift fun _ ht => tbM_shl b k ht

-- the sign bits dragged in lie above the lowest set bit of the complement
theorem notSar_cntIfNonzero : ∀ b, b < 256 → ∀ k, k < 8 →
    cntIfNonzero (ctz 8) (notSarByte b k) = cntIfNonzero (ctz 8) ((255 - b) / 2^k) := by decide +kernel

theorem notShl_eq : ∀ b, b < 256 → ∀ k, k < 8 → notShlByte b k = (255 - b) * 2^k % 256 := by decide +kernel

theorem first_setL {b : Nat} (hb : b < 256) {k : Nat} (hk : k < 8) :
    FirstOK tbL false b k (cntIfNonzero (ctz 8) (notSarByte b k)) := by
  rw [notSar_cntIfNonzero b hb k hk]
  exact (first_clearL (by omega) k).compl fun _ ht => tbL_compl hb ht

theorem first_setM {b : Nat} (hb : b < 256) {k : Nat} (hk : k < 8) :
    FirstOK tbM false b k (cntIfNonzero clz8 (notShlByte b k)) := by
  rw [notShl_eq b hb k hk]
  exact (first_clearM _ k).compl fun _ ht => tbM_compl hb ht

theorem hit_set {cnt : Nat → Nat} {b : Nat} (hb : b < 256)
    (hc : ∀ t, t < 8 → bit (255 - b) t = !bit b t) (h : FirstOK bit true (255 - b) 0 (cntIfNonzero cnt (255 - b))) :
    FirstOK bit false b 0 (if b ≠ 255 then some (cnt (255 - b)) else none) := by
  have e : (if b ≠ 255 then some (cnt (255 - b)) else none) = cntIfNonzero cnt (255 - b) := by
    unfold cntIfNonzero
    by_cases hb255 : b = 255
    · subst hb255; rfl
    · rw [if_pos hb255, if_pos (by omega)]
  rw [e]
  exact h.compl hc

theorem FirstOK.some_at {want : Bool} {bm : Bitmap} {j k c p : Nat}
    (h : FirstOK bit want (byteAt bm j) k (some c)) (hp : p = j * 8 + k) :
    bit (byteAt bm ((p + c) / 8)) ((p + c) % 8) = want ∧
    ∀ i, p ≤ i → i < p + c → bit (byteAt bm (i / 8)) (i % 8) = !want := by
  obtain ⟨h1, h2, h3⟩ := h
  refine ⟨by rw [show (p + c) / 8 = j by omega, show (p + c) % 8 = k + c by omega]; exact h2, ?_⟩
  intro i hi1 hi2
  rw [show i / 8 = j by omega, show i % 8 = k + (i - p) by omega]
  exact h3 _ (by omega)

theorem FirstOK.none_at {want : Bool} {bm : Bitmap} {j k : Nat}
    (h : FirstOK bit want (byteAt bm j) k none) :
    ∀ i, j * 8 + k ≤ i → i < (j + 1) * 8 → bit (byteAt bm (i / 8)) (i % 8) = !want := by
  intro i hi1 hi2
  rw [show i / 8 = j by omega]
  exact h _ (by omega) (by omega)

end

/-- `r` is where a scan from `pfn` for a bit equal to `want` stops in a bitmap of `lim` bits -/
def IsSkip (f : Nat → Bool) (want : Bool) (lim pfn r : Nat) : Prop :=
  pfn ≤ r ∧ (pfn < lim → r ≤ lim) ∧ (∀ j, pfn ≤ j → j < r → j < lim → f j = !want) ∧
    (r < lim → f r = want)

theorem scanBytes_spec (bit : Nat → Nat → Bool) (want : Bool) (bm : Bitmap) (hb : BytesWF bm)
    (size : Nat) (hit : Nat → Option Nat) (hhit : ∀ b, b < 256 → FirstOK bit want b 0 (hit b)) :
    ∀ fuel j, j ≤ size → size - j < fuel →
      IsSkip (fun i => bit (byteAt bm (i/8)) (i%8)) want (size * 8) (j * 8) (scanBytes bm size hit fuel j) ∧
      scanBytes bm size hit fuel j ≤ size * 8 := by
  intro fuel
  induction fuel with
  | zero => intro j _ h; omega
  | succ fuel ih =>
    intro j hj hf
    unfold scanBytes
    split
    · exact ⟨⟨by omega, by omega, fun i h1 h2 => by omega, by omega⟩, by omega⟩
    · have hbj := hhit _ (byteAt_lt hb j)
      split
      · rename_i off heq
        rw [heq] at hbj
        obtain ⟨g1, g2⟩ := hbj.some_at (Nat.add_zero _).symm
        have := hbj.1
        exact ⟨⟨by omega, by omega, fun i h1 h2 _ => g2 i h1 h2, fun _ => g1⟩, by omega⟩
      · rename_i heq
        rw [heq] at hbj
        obtain ⟨⟨i1, _, i3, i4⟩, i2⟩ := ih (j+1) (by omega) (by omega)
        refine ⟨⟨by omega, fun _ => i2, ?_, i4⟩, i2⟩
        intro i hi1 hi2 hi3
        by_cases hlt : i < (j+1) * 8
        · exact hbj.none_at i hi1 hlt
        · exact i3 i (by omega) hi2 hi3

/-- the common shape of the four `skip_*` functions -/
def skipGen (val : Nat → Nat → Nat) (cnt : Nat → Nat) (hit : Nat → Option Nat) (bm : Bitmap)
    (size pfn : Nat) : Nat :=
  if pfn / 8 ≥ size then pfn
  else if val (byteAt bm (pfn / 8)) (pfn % 8) ≠ 0 then pfn + cnt (val (byteAt bm (pfn / 8)) (pfn % 8))
  else scanBytes bm size hit size (pfn / 8 + 1)

theorem skipGen_spec (bit : Nat → Nat → Bool) (want : Bool) (bm : Bitmap) (hb : BytesWF bm)
    (val : Nat → Nat → Nat) (cnt : Nat → Nat) (hit : Nat → Option Nat)
    (hval : ∀ b, b < 256 → ∀ k, k < 8 → FirstOK bit want b k (cntIfNonzero cnt (val b k)))
    (hhit : ∀ b, b < 256 → FirstOK bit want b 0 (hit b)) (size pfn : Nat) :
    IsSkip (fun i => bit (byteAt bm (i/8)) (i%8)) want (size * 8) pfn (skipGen val cnt hit bm size pfn) := by
  unfold skipGen
  split
  · exact ⟨by omega, by omega, fun j h1 h2 => by omega, by omega⟩
  · have h0 := hval _ (byteAt_lt hb (pfn / 8)) (pfn % 8) (by omega)
    unfold cntIfNonzero at h0
    split
    · rename_i hv
      rw [if_pos hv] at h0
      obtain ⟨g1, g2⟩ := h0.some_at (p := pfn) (by omega)
      have := h0.1
      exact ⟨by omega, by omega, fun j h1 h2 _ => g2 j h1 h2, fun _ => g1⟩
    · rename_i hv
      rw [if_neg hv] at h0
      obtain ⟨⟨i1, _, i3, i4⟩, i2⟩ :=
        scanBytes_spec bit want bm hb size hit hhit size (pfn / 8 + 1) (by omega) (by omega)
      refine ⟨by omega, fun _ => i2, ?_, i4⟩
      intro j hj1 hj2 hj3
      by_cases hlt : j < (pfn / 8 + 1) * 8
      · exact h0.none_at j (by omega) hlt
      · exact i3 j (by omega) hj2 hj3

def skipClear (msb0 : Bool) (bm : Bitmap) (size pfn : Nat) : Nat :=
  if msb0 then skipClearMsb0 bm size pfn else skipClearLsb0 bm size pfn
def skipSet (msb0 : Bool) (bm : Bitmap) (size pfn : Nat) : Nat :=
  if msb0 then skipSetMsb0 bm size pfn else skipSetLsb0 bm size pfn

theorem skipClear_spec (msb0 : Bool) (bm : Bitmap) (hb : BytesWF bm) (size pfn : Nat) :
    IsSkip (bitOf msb0 bm) true (size * 8) pfn (skipClear msb0 bm size pfn) := by
  cases msb0
  · exact skipGen_spec tbL true bm hb (fun b k => b / 2^k) (ctz 8) (cntIfNonzero (ctz 8))
      (fun _ hb k _ => first_clearL hb k) (fun _ => cntIfNonzero_ctz) size pfn
  · exact skipGen_spec tbM true bm hb (fun b k => b * 2^k % 256) clz8 (cntIfNonzero clz8)
      (fun b _ k _ => first_clearM b k) (fun _ => cntIfNonzero_clz8) size pfn

theorem skipSet_spec (msb0 : Bool) (bm : Bitmap) (hb : BytesWF bm) (size pfn : Nat) :
    IsSkip (bitOf msb0 bm) false (size * 8) pfn (skipSet msb0 bm size pfn) := by
  cases msb0
  · exact skipGen_spec tbL false bm hb notSarByte (ctz 8) _
      (fun _ hb _ hk => first_setL hb hk)
      (fun _ hb => hit_set hb (fun _ => tbL_compl hb) (cntIfNonzero_ctz (by omega))) size pfn
  · exact skipGen_spec tbM false bm hb notShlByte clz8 _
      (fun _ hb _ hk => first_setM hb hk)
      (fun _ hb => hit_set hb (fun _ => tbM_compl hb) (cntIfNonzero_clz8 (by omega))) size pfn

end Kdf.Lemmas.Pfn
