import Kdf.Lemmas.ErrArr
/-! `vadd` on a well-formed buffer (C16): the string read off an array that holds one, `vadd` cut
into its branches, what each branch leaves behind. -/
namespace Kdf.Lemmas.Err
open Kdf.Model.Err

variable {e : ErrBuf} {inD : Bool} {arr : List Byte} {pos remain dlen o : Nat} {old msg s : List Byte}

structure Base (e : ErrBuf) : Prop where
  bufsz_ge : 2 ≤ e.bufsz
  buf_len : e.buf.length = e.bufsz
  no_oob : e.oob = false

def getArr (e : ErrBuf) (inD : Bool) : Option (List Byte) := if inD then e.dyn else some e.buf
def setArr (e : ErrBuf) (inD : Bool) (a : List Byte) : ErrBuf :=
  if inD then { e with dyn := some a } else { e with buf := a }

@[simp] theorem getArr_setArr (e : ErrBuf) (inD : Bool) (a : List Byte) : getArr (setArr e inD a) inD = some a := by
  cases inD <;> rfl

@[simp] theorem setArr_setArr (e : ErrBuf) (inD : Bool) (a a' : List Byte) :
    setArr (setArr e inD a) inD a' = setArr e inD a' := by
  cases inD <;> rfl

theorem getArr_len (hb : Base e) (h : getArr e inD = some arr)
    (hd : inD = false) : arr.length = e.bufsz := by
  subst hd
  cases h
  exact hb.buf_len

theorem Base.setArr {a : List Byte} (hb : Base e) (hlen : inD = false → a.length = e.bufsz) :
    Base (setArr e inD a) := by
  cases inD with
  | true => exact ⟨hb.bufsz_ge, hb.buf_len, hb.no_oob⟩
  | false => exact ⟨hb.bufsz_ge, hlen rfl, hb.no_oob⟩

theorem wrAt_eq (o : Nat) (bs : List Byte)
    (h : getArr e inD = some arr) (hb : o + bs.length ≤ arr.length) :
    wrAt e inD o bs = setArr e inD (wr arr o bs).1 := by
  cases inD with
  | true =>
    simp only [getArr, if_true] at h
    simp [wrAt, setArr, h, wr_bad arr o bs hb]
  | false =>
    simp only [getArr, Bool.false_eq_true, if_false, Option.some.injEq] at h
    subst h
    simp [wrAt, setArr, wr_bad _ o bs hb]

/-- the delimiter write: `r` bytes of ": " -/
theorem wrDelim (e : ErrBuf) (inD : Bool) (A : List Byte) (o dlen r : Nat) (h0 : dlen = 0 → r = 0) (hr : r ≤ 2)
    (hb : o + r ≤ A.length) :
    (if dlen ≠ 0 then wrAt (setArr e inD A) inD o (delim.drop (2 - r)) else setArr e inD A) =
      setArr e inD (wr A o (delim.drop (2 - r))).1 := by
  by_cases hd : dlen = 0
  · rw [if_neg (by simpa using hd), h0 hd]; rfl
  · rw [if_pos hd, wrAt_eq _ _ (getArr_setArr e inD A) (by simp [delim]; omega), setArr_setArr]

theorem cstr_go_eq_drop (e : ErrBuf) (p : Pos) (s : List Byte) (nz : ∀ b ∈ s, b ≠ 0)
    (hrd : ∀ i, i < s.length → rd e p i = s[i]?) (hz : rd e p s.length = some 0) :
    ∀ fuel i, i ≤ s.length → s.length - i < fuel → cstr.go e p fuel i = s.drop i := by
  intro fuel
  induction fuel with
  | zero => intro i _ h; omega
  | succ fuel ih =>
    intro i hi hf
    rcases Nat.lt_or_ge i s.length with hlt | hge
    · have hd : s.drop i = s[i] :: s.drop (i+1) := List.drop_eq_getElem_cons hlt
      have hne : s[i] ≠ 0 := nz _ (List.getElem_mem hlt)
      rw [hd, cstr.go, hrd i hlt, List.getElem?_eq_getElem hlt, ih (i+1) (by omega) (by omega)]
      generalize s[i] = x at hne
      cases x with
      | zero => exact absurd rfl hne
      | succ k => rfl
    · have : i = s.length := by omega
      subst this
      rw [cstr.go, hz]; simp


theorem cstr_null (e : ErrBuf) : cstr e .null = [] := by
  simp [cstr, cstr.go, rd]

theorem rd_getArr (h : getArr e inD = some arr) (o i : Nat) :
    rd e (if inD then .inDyn o else .inBuf o) i = arr[o + i]? := by
  cases inD with
  | true => simp only [getArr, if_true] at h; simp [rd, h]
  | false => cases h; simp [rd]

theorem cstr_shape {s : List Byte}
    (hl : e.buf.length ≤ e.bufsz) (h : getArr e inD = some arr) (hs : HoldsCStr arr pos s) :
    cstr e (if inD then .inDyn pos else .inBuf pos) = s := by
  have hlt := hs.lt
  unfold cstr
  rw [cstr_go_eq_drop e _ s hs.nz (fun i hi => by rw [rd_getArr h, hs.get i hi]) (by rw [rd_getArr h, hs.get_nul])
    _ 0 (Nat.zero_le _) ?fuel]
  · rfl
  · cases inD with
    | true => simp only [getArr, if_true] at h; rw [h]; simp only; omega
    | false => cases h; omega

theorem Inv.of_null (hb : 2 ≤ e.bufsz) (hl : e.buf.length = e.bufsz) (ho : e.oob = false)
    (hs : e.str = .null) : Inv e ∧ text e = [] := by
  refine ⟨⟨hb, hl, ho, ?_⟩, ?_⟩
  · rw [hs]; trivial
  · rw [text, hs, cstr_null]

theorem Inv.of_shape (hb : Base e)
    (hs : e.str = if inD then .inDyn o else .inBuf o) (h : getArr e inD = some arr) (ho : inD = true → o ≤ 1)
    (hsh : HoldsCStr arr o s) : Inv e ∧ text e = s := by
  have hlt := hsh.lt
  refine ⟨⟨hb.bufsz_ge, hb.buf_len, hb.no_oob, ?_⟩, ?_⟩
  · rw [hs]
    cases inD with
    | true => exact ⟨arr, h, ho rfl, hsh.pointwise⟩
    | false =>
      cases h
      rw [← hb.buf_len]
      exact ⟨by omega, hsh.pointwise⟩
  · rw [text, hs, cstr_shape (Nat.le_of_eq hb.buf_len) h hsh]

theorem Inv.shape (h : Inv e) :
    e.str = .null ∨ ∃ inD arr o, e.str = (if inD then .inDyn o else .inBuf o) ∧ getArr e inD = some arr ∧
      HoldsCStr arr o (text e) ∧ (inD = true → o ≤ 1) ∧ (inD = false → o < e.bufsz) := by
  have hs := h.str_ok
  cases hstr : e.str with
  | null => exact Or.inl rfl
  | inBuf o =>
    rw [hstr] at hs
    obtain ⟨ho, n, hn, h0, hall⟩ := hs
    obtain ⟨s, _, hsh⟩ := HoldsCStr.of_pointwise h0 hall
    have ht : text e = s := by
      rw [text, hstr]; exact cstr_shape (inD := false) (Nat.le_of_eq h.buf_len) rfl hsh
    exact Or.inr ⟨false, e.buf, o, rfl, rfl, ht ▸ hsh, by simp, fun _ => ho⟩
  | inDyn o =>
    rw [hstr] at hs
    obtain ⟨d, hd, ho, n, hn, h0, hall⟩ := hs
    obtain ⟨s, _, hsh⟩ := HoldsCStr.of_pointwise h0 hall
    have ht : text e = s := by
      rw [text, hstr]; exact cstr_shape (inD := true) (Nat.le_of_eq h.buf_len) hd hsh
    exact Or.inr ⟨true, d, o, rfl, hd, ht ▸ hsh, fun _ => ho, by simp⟩

theorem inv_of_written {arr' : List Byte} {s : List Byte}
    (hb : Base e) (hlen : inD = false → arr'.length = e.bufsz) (ho : inD = true → o ≤ 1) (hs : HoldsCStr arr' o s) :
    Inv { setArr e inD arr' with str := if inD then .inDyn o else .inBuf o } ∧
    text { setArr e inD arr' with str := if inD then .inDyn o else .inBuf o } = s :=
  have hb' := hb.setArr hlen
  Inv.of_shape ⟨hb'.bufsz_ge, hb'.buf_len, hb'.no_oob⟩ rfl (getArr_setArr e inD arr') ho hs

/-- grow branch: realloc + memmove + vsnprintf + delimiter -/
def vaddAlloc (e : ErrBuf) (inD : Bool) (pos dlen : Nat) (msg : List Byte) : ErrBuf :=
  let msglen := msg.length + dlen
  let old := cstr e (if inD then .inDyn pos else .inBuf pos)
  let curlen := old.length
  let newsz := 1 + curlen + msglen + 1
  let keep := match e.dyn with | some d => d.take newsz | none => []
  let blk := keep ++ List.replicate (newsz - keep.length) 0xDD
  let e1 := { e with dyn := some blk }
  let e2 := wrAt e1 true (msglen + 1) (old ++ [0])
  let e3 := wrAt e2 true 1 (msg ++ [0])
  let r := min msglen dlen
  let e4 := if dlen ≠ 0 then wrAt e3 true (msglen + 1 - r) (delim.drop (2 - r)) else e3
  { e4 with str := .inDyn 1 }

def vaddTrunc (e : ErrBuf) (inD : Bool) (pos remain dlen : Nat) (msg : List Byte) : ErrBuf :=
  let msglen := msg.length + dlen
  let lbuf0 : List Byte := (msg.take (e.bufsz - 1) ++ [0]) ++ List.replicate (e.bufsz + 2 - (min msg.length (e.bufsz - 1) + 1)) 0xEE
  let (lbuf, msglen) :=
    if msg.length ≥ e.bufsz then (lbuf0.set (e.bufsz - 2) 62, e.bufsz - 1 + dlen)
    else (lbuf0, msglen)
  let src := (List.range remain).map fun i => lbuf[msglen - remain + i]?
  let bad := src.any (·.isNone) || decide (msglen < remain)
  let bytes := src.map (·.getD 0xEE)
  let e1 := wrAt e inD (pos - remain) bytes
  let e1 := { e1 with oob := e1.oob || bad }
  let e2 := wrAt e1 inD (pos - remain) [60]
  let r := min (remain - 1) dlen
  let e3 := if dlen ≠ 0 then wrAt e2 inD (pos - r) (delim.drop (2 - r)) else e2
  { e3 with str := if inD then .inDyn (pos - remain) else .inBuf (pos - remain) }

def vaddNoRoom (e : ErrBuf) (inD : Bool) (pos : Nat) : ErrBuf :=
  let e1 := wrAt e inD pos [60]
  { e1 with str := if inD then .inDyn pos else .inBuf pos }

def vaddFit (e : ErrBuf) (inD : Bool) (pos remain dlen : Nat) (msg : List Byte) : ErrBuf :=
  let msglen := msg.length + dlen
  let e1 := wrAt e inD (pos - msglen) (msg ++ [0])
  let r := min remain dlen
  let e2 := if dlen ≠ 0 then wrAt e1 inD (pos - r) (delim.drop (2 - r)) else e1
  { e2 with str := if inD then .inDyn (pos - msglen) else .inBuf (pos - msglen) }

def vaddCore (e : ErrBuf) (inD : Bool) (pos remain dlen : Nat) (msg : List Byte) (allocOk : Bool) : ErrBuf :=
  if remain < msg.length + dlen then
    if allocOk then vaddAlloc e inD pos dlen msg
    else if remain ≠ 0 then vaddTrunc e inD pos remain dlen msg
    else vaddNoRoom e inD pos
  else vaddFit e inD pos remain dlen msg

theorem vadd_empty (e : ErrBuf) (msg : List Byte) (a : Bool) (h : e.str = .null ∨ rd e e.str 0 = some 0) :
    vadd e msg a = vaddCore (wrAt e false (e.bufsz - 1) [0]) false (e.bufsz - 1) (e.bufsz - 1) 0 msg a := by
  unfold vadd
  cases hs : e.str with
  | null => simp only [if_true]; rfl
  | inBuf o =>
    have h : rd e (.inBuf o) 0 = some 0 := by simpa [hs] using h
    simp only [h, beq_self_eq_true, if_true]; rfl
  | inDyn o =>
    have h : rd e (.inDyn o) 0 = some 0 := by simpa [hs] using h
    simp only [h, beq_self_eq_true, if_true]; rfl

theorem vadd_nonempty (e : ErrBuf) (msg : List Byte) (a : Bool) {o : Nat}
    (hs : e.str = if inD then .inDyn o else .inBuf o) (h : rd e e.str 0 ≠ some 0) :
    vadd e msg a = vaddCore e inD o o 2 msg a := by
  -- with `e.str` not yet a constructor when `vadd` is unfolded the final `rfl` is dear
  cases inD with
  | true =>
    have hs' : e.str = .inDyn o := hs
    have hne : (rd e (.inDyn o) 0 == some 0) = false := by simpa [hs'] using h
    unfold vadd
    simp only [hs', hne]
    rfl
  | false =>
    have hs' : e.str = .inBuf o := hs
    have hne : (rd e (.inBuf o) 0 == some 0) = false := by simpa [hs'] using h
    unfold vadd
    simp only [hs', hne]
    rfl

def DelimFor (dlen : Nat) (old : List Byte) : Prop := (dlen = 0 ∧ old = []) ∨ (dlen = 2 ∧ old ≠ [])

theorem DelimFor.chain (hd : DelimFor dlen old) (msg : List Byte) :
    msg ++ delim.drop (2 - dlen) ++ old = chain msg old := by
  rcases hd with ⟨rfl, rfl⟩ | ⟨rfl, hne⟩
  · simp [Err.chain, delim]
  · simp [Err.chain, hne]

theorem vaddFit_spec (inD : Bool)
    (hb : Base e) (h : getArr e inD = some arr) (hs : HoldsCStr arr pos old) (hm : MsgWF msg)
    (hd : DelimFor dlen old) (hr : dlen ≤ remain) (hfit : msg.length + dlen ≤ pos)
    (ho : inD = true → pos - (msg.length + dlen) ≤ 1) :
    Inv (vaddFit e inD pos remain dlen msg) ∧ text (vaddFit e inD pos remain dlen msg) = chain msg old ∧
    (inD = false → (vaddFit e inD pos remain dlen msg).dyn = e.dyn) := by
  have hlt := hs.lt
  have hmin : min remain dlen = dlen := by omega
  have hd2 : dlen ≤ 2 := by rcases hd with ⟨h, _⟩ | ⟨h, _⟩ <;> omega
  have hdl : (delim.drop (2 - dlen)).length = dlen := by simp [delim]; omega
  have hin : pos - (msg.length + dlen) + (msg ++ [0]).length ≤ arr.length := by simp; omega
  have hlen := wr_len _ _ _ hin
  simp only [vaddFit, hmin]
  rw [wrAt_eq _ _ h hin, wrDelim e inD _ (pos - dlen) dlen dlen (fun h => h) hd2 (by omega)]
  have hsh := fit_arr arr pos dlen msg (delim.drop (2 - dlen)) old hm.nz
    (fun b hb => nz_delim b (List.mem_of_mem_drop hb)) hdl
    (fun h0 => by rcases hd with ⟨_, h⟩ | ⟨rfl, _⟩; exact h; simp [delim] at h0) hs hfit
  have hf := inv_of_written hb (fun hd => by rw [wr_len _ _ _ (by omega), hlen, getArr_len hb h hd]) ho hsh
  exact ⟨hf.1, hf.2.trans (hd.chain msg), fun hd => by subst hd; rfl⟩

def allocBlk (dyn : Option (List Byte)) (n : Nat) : List Byte :=
  (match dyn with | some d => d.take n | none => []) ++
      List.replicate (n - (match dyn with | some d => d.take n | none => []).length) 0xDD

theorem allocBlk_len (dyn : Option (List Byte)) (n : Nat) : (allocBlk dyn n).length = n := by
  unfold allocBlk
  cases dyn <;> simp <;> omega

/-- the grow branch moves the old text to the end of a fresh block, then proceeds like the fit branch -/
theorem vaddAlloc_eq (e : ErrBuf) (inD : Bool) (pos dlen : Nat) (msg : List Byte) :
    vaddAlloc e inD pos dlen msg =
      vaddFit (wrAt (setArr e true (allocBlk e.dyn
            (1 + (cstr e (if inD then .inDyn pos else .inBuf pos)).length + (msg.length + dlen) + 1)))
          true (msg.length + dlen + 1) (cstr e (if inD then .inDyn pos else .inBuf pos) ++ [0]))
        true (msg.length + dlen + 1) (msg.length + dlen) dlen msg := by
  unfold vaddAlloc vaddFit
  simp only [Nat.add_sub_cancel_left]
  rfl

theorem vaddAlloc_spec (inD : Bool)
    (hb : Base e) (h : getArr e inD = some arr) (hs : HoldsCStr arr pos old) (hm : MsgWF msg) (hd : DelimFor dlen old) :
    Inv (vaddAlloc e inD pos dlen msg) ∧ text (vaddAlloc e inD pos dlen msg) = chain msg old := by
  rw [vaddAlloc_eq, cstr_shape (Nat.le_of_eq hb.buf_len) h hs]
  have hbl := allocBlk_len e.dyn (1 + old.length + (msg.length + dlen) + 1)
  generalize allocBlk e.dyn (1 + old.length + (msg.length + dlen) + 1) = blk at hbl
  have hin : msg.length + dlen + 1 + (old ++ [0]).length ≤ blk.length := by simp; omega
  rw [wrAt_eq _ _ (getArr_setArr e true blk) hin, setArr_setArr]
  have hf := vaddFit_spec (remain := msg.length + dlen) true (hb.setArr (inD := true) (fun h => Bool.noConfusion h))
    (getArr_setArr e true _) (HoldsCStr.write blk _ old hs.nz hin) hm hd (by omega) (by omega) (fun _ => by omega)
  exact ⟨hf.1, hf.2.1⟩

theorem vaddTrunc_full (e : ErrBuf) (inD : Bool) (pos dlen : Nat) (msg : List Byte)
    (hbad : truncBad (lbufOf e.bufsz msg) (capLen e.bufsz msg + dlen) pos = false) :
    vaddTrunc e inD pos pos dlen msg =
      { (if dlen ≠ 0 then
          wrAt (wrAt (wrAt e inD 0 (truncBytes (lbufOf e.bufsz msg) (capLen e.bufsz msg + dlen) pos)) inD 0 [60]) inD
            (pos - min (pos - 1) dlen) (delim.drop (2 - min (pos - 1) dlen))
         else wrAt (wrAt e inD 0 (truncBytes (lbufOf e.bufsz msg) (capLen e.bufsz msg + dlen) pos)) inD 0 [60])
        with str := if inD then .inDyn 0 else .inBuf 0 } := by
  unfold truncBad at hbad
  by_cases hc : msg.length ≥ e.bufsz
  · simp only [lbufOf, lbuf0, capLen, hc, if_true] at hbad
    simp only [vaddTrunc, truncBytes, lbufOf, lbuf0, capLen, hc, if_true, hbad, Nat.sub_self, Bool.or_false]
  · simp only [lbufOf, lbuf0, capLen, hc, if_false] at hbad
    simp only [vaddTrunc, truncBytes, lbufOf, lbuf0, capLen, hc, if_false, hbad, Nat.sub_self, Bool.or_false]

theorem vaddTrunc_spec (inD : Bool)
    (hb : Base e) (h : getArr e inD = some arr) (hs : HoldsCStr arr pos old) (hm : MsgWF msg)
    (hd : dlen = 0 ∨ dlen = 2) (hp : 1 ≤ pos) (hpn : pos ≤ e.bufsz - 1) (hnofit : pos < msg.length + dlen) :
    Inv (vaddTrunc e inD pos pos dlen msg) ∧
    ∃ X, text (vaddTrunc e inD pos pos dlen msg) = 60 :: X ++ old ∧ X.length + 1 = pos := by
  have hlt := hs.lt
  have hn := hb.bufsz_ge
  obtain ⟨hc1, hc2, hc3, hc4⟩ := capLen_le e.bufsz msg
  have hll := lbufOf_len e.bufsz msg
  have hbad : truncBad (lbufOf e.bufsz msg) (capLen e.bufsz msg + dlen) pos = false :=
    truncBad_false _ _ _ (by omega) (by omega)
  have hbl : (truncBytes (lbufOf e.bufsz msg) (capLen e.bufsz msg + dlen) pos).length = pos := by simp [truncBytes]
  have hnzb : ∀ b ∈ ((truncBytes (lbufOf e.bufsz msg) (capLen e.bufsz msg + dlen) pos).drop 1).take
      (pos - min (pos - 1) dlen - 1), b ≠ 0 :=
    truncBytes_nz _ _ _ _ (capLen e.bufsz msg) (fun j hj => lbufOf_nz e.bufsz msg hm j hj) (by omega)
  rw [vaddTrunc_full e inD pos dlen msg hbad]
  generalize truncBytes (lbufOf e.bufsz msg) (capLen e.bufsz msg + dlen) pos = bytes at hbl hnzb
  -- `r` bytes of the delimiter survive in front of the old text
  have hr : min (pos - 1) dlen ≤ 2 := by omega
  have hr0 : dlen = 0 → min (pos - 1) dlen = 0 := fun h => by omega
  have hr1 : min (pos - 1) dlen + 1 ≤ pos := by omega
  generalize min (pos - 1) dlen = r at hr hr0 hr1 hnzb
  have hdl : (delim.drop (2 - r)).length = r := by simp [delim]; omega
  have hin1 : 0 + bytes.length ≤ arr.length := by omega
  have hin2 : 0 + [60].length ≤ (wr arr 0 bytes).1.length := by rw [wr_len _ _ _ hin1]; simp; omega
  have hin3 : pos - r + r ≤ (wr (wr arr 0 bytes).1 0 [60]).1.length := by
    rw [wr_len _ _ _ hin2, wr_len _ _ _ hin1]; omega
  rw [wrAt_eq _ _ h hin1, wrAt_eq _ _ (getArr_setArr _ _ _) hin2, setArr_setArr,
    wrDelim e inD _ (pos - r) dlen r hr0 hr hin3]
  have hsh := trunc_arr arr pos old bytes (delim.drop (2 - r)) r hs hbl hr1 hdl
    (fun b hb => nz_delim b (List.mem_of_mem_drop hb)) hnzb
  have hf := inv_of_written (o := 0) hb
    (fun hd => by rw [wr_len _ _ _ (by omega), wr_len _ _ _ hin2, wr_len _ _ _ hin1, getArr_len hb h hd])
    (fun _ => Nat.zero_le 1) hsh
  refine ⟨hf.1, (bytes.drop 1).take (pos - r - 1) ++ delim.drop (2 - r), ?_, ?_⟩
  · rw [hf.2]; simp
  · rw [List.length_append, hdl]; simp; omega

theorem vaddNoRoom_spec {x : Byte} {xs : List Byte} (inD : Bool)
    (hb : Base e) (h : getArr e inD = some arr) (hs : HoldsCStr arr 0 (x :: xs)) :
    Inv (vaddNoRoom e inD 0) ∧ text (vaddNoRoom e inD 0) = 60 :: xs := by
  have hlt := hs.lt
  have hin : 0 + [60].length ≤ arr.length := by simp; omega
  simp only [vaddNoRoom]
  rw [wrAt_eq _ _ h hin]
  exact inv_of_written (o := 0) hb (fun hd => by rw [wr_len _ _ _ hin, getArr_len hb h hd])
    (fun _ => Nat.zero_le 1) (noroom_arr arr x xs hs)

theorem DelimFor.dlen_eq (hd : DelimFor dlen old) :
    (if old = [] then 0 else 2) = dlen := by
  rcases hd with ⟨rfl, rfl⟩ | ⟨rfl, hne⟩
  · rfl
  · rw [if_neg hne]

/-- `vadd e msg` is `vaddCore` on `E`, whose array `inD` holds the text at `o = room e` -/
structure Prepared (e : ErrBuf) (msg : List Byte) (E : ErrBuf) (inD : Bool) (arr : List Byte) (o dlen : Nat) :
    Prop where
  vadd_eq : ∀ a, vadd e msg a = vaddCore E inD o o dlen msg a
  base : Base E
  bufsz_eq : E.bufsz = e.bufsz
  dyn_eq : E.dyn = e.dyn
  arr_eq : getArr E inD = some arr
  shape : HoldsCStr arr o (text e)
  delim : DelimFor dlen (text e)
  room_eq : room e = o
  dyn_off : inD = true → o ≤ 1 ∧ dlen = 2
  off_le : o ≤ e.bufsz - 1
  off_pos : dlen = 0 → 1 ≤ o

theorem vadd_core (hi : Inv e) (msg : List Byte) : ∃ E inD arr o dlen, Prepared e msg E inD arr o dlen := by
  have hb : Base e := ⟨hi.bufsz_ge, hi.buf_len, hi.no_oob⟩
  have hn := hb.bufsz_ge
  have hempty (ht : text e = []) (hv : ∀ a, vadd e msg a =
      vaddCore (wrAt e false (e.bufsz - 1) [0]) false (e.bufsz - 1) (e.bufsz - 1) 0 msg a) :
      ∃ E inD arr o dlen, Prepared e msg E inD arr o dlen := by
    have hin : e.bufsz - 1 + ([0] : List Byte).length ≤ e.buf.length := by rw [hb.buf_len]; simp; omega
    have hsh := HoldsCStr.write e.buf (e.bufsz - 1) [] (by simp) hin
    rw [wrAt_eq (e := e) (inD := false) (arr := e.buf) _ _ rfl hin] at hv
    exact ⟨_, false, _, _, 0, hv, hb.setArr (fun _ => by rw [wr_len _ _ _ hin, hb.buf_len]), rfl, rfl,
      getArr_setArr _ _ _, by rw [ht]; exact hsh, Or.inl ⟨rfl, ht⟩, by simp [room, ht], fun h => Bool.noConfusion h,
      Nat.le_refl _, fun _ => by omega⟩
  rcases hi.shape with hnull | ⟨inD, arr, o, hstr, hg, hsh, ho1, ho2⟩
  · exact hempty (by rw [text, hnull, cstr_null]) (fun a => vadd_empty e msg a (Or.inl hnull))
  · have hrd : rd e e.str 0 = arr[o]? := by rw [hstr, rd_getArr hg]; rfl
    by_cases ht : text e = []
    · exact hempty ht (fun a => vadd_empty e msg a (Or.inr (hrd.trans (hsh.head_nul_iff.mpr ht))))
    · refine ⟨e, inD, arr, o, 2, fun a => vadd_nonempty e msg a hstr ?_, hb, rfl, rfl, hg, hsh, Or.inr ⟨rfl, ht⟩, ?_,
        fun hD => ⟨ho1 hD, rfl⟩, ?_, fun h => by omega⟩
      · rw [hrd]; exact fun h0 => ht (hsh.head_nul_iff.mp h0)
      · cases inD <;> simp [room, ht, hstr]
      · cases inD with
        | true => have := ho1 rfl; omega
        | false => have := ho2 rfl; omega

end Kdf.Lemmas.Err
