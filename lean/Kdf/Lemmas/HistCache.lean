import Kdf.Lemmas.Cache
import Kdf.Lemmas.CacheStep
/-!
C04, section 1: what the operations of the page-cache model (C06) do to the in-flight list and to
the reference counts, and `insert`, `discard`, `put` on the inputs `cache_get_page` feeds them.
-/
namespace Kdf.Lemmas.Hist
open Kdf.Model.Cache Kdf.Lemmas.Cache Kdf.Lemmas.CacheList

variable {c c' : Cache} {st : Prop}

/-- same reference counts -/
def SameRef (c c' : Cache) : Prop := ∀ j, c'.refcnt j = c.refcnt j

theorem SameRef.refl (c : Cache) : SameRef c c := fun _ => rfl

theorem SameRef.of_ents (h : c'.ents = c.ents) : SameRef c c' := fun j => by
  unfold Cache.refcnt Cache.ent; rw [h]

/-- `hf` is checked by `rfl` once the update `f` is known from the goal -/
theorem SameRef.modEnt (h : SameRef c c') (e : Nat) {f : Entry → Entry}
    (hf : ∀ x, (f x).refcnt = x.refcnt := by intro _; rfl) : SameRef c (c'.modEnt e f) :=
  fun j => (refcnt_modEnt_keeps c' e f hf j).trans (h j)

/-- at most one more reference, and only on `e` -/
def RefLe (c c' : Cache) (e : Nat) : Prop :=
  ∀ j, c'.refcnt j ≤ c.refcnt j + (if j = e then 1 else 0)

/-- every branch of `cache_get_entry` that hands out `e` ends like this -/
theorem refLe_incref {X : Cache} (e : Nat) (h : SameRef c X) :
    RefLe c (incref X e) e ∧ (e < (incref X e).ents.length → (incref X e).refcnt e ≠ 0) := by
  unfold Kdf.Lemmas.Cache.incref
  refine ⟨fun j => ?_, fun he => ?_⟩
  · rw [refcnt_modEnt, ← h j]
    split
    · rename_i hj; rw [if_pos hj.1, hj.1]; exact Nat.le_refl _
    · exact Nat.le_add_right _ _
  · rw [modEnt_len] at he
    rw [refcnt_modEnt, if_pos ⟨rfl, he⟩]
    exact Nat.succ_ne_zero _

/-- `_track`: effect on the in-flight list `F` and on the reference counts -/
theorem evictEntry_track {bias z : Nat} (h : evictEntry c bias = .ok (c', z)) :
    c'.F = c.F ∧ c'.ents = c.ents := by
  obtain ⟨-, ⟨-, rfl⟩ | ⟨-, rfl⟩⟩ := evictEntry_spec h <;> exact ⟨rfl, rfl⟩

theorem reclaimData_track {d : Option Nat} (h : reclaimData c = .ok (c', d)) :
    c'.F = c.F ∧ SameRef c c' := by
  unfold reclaimData at h
  split at h
  · split at h
    · cases h
    · cases h
      exact ⟨rfl, (SameRef.refl c).modEnt _⟩
  · obtain ⟨⟨c2, z⟩, hev, h⟩ := bind_eq_ok.1 h
    cases h
    obtain ⟨hF, he⟩ := evictEntry_track hev
    exact ⟨hF, (SameRef.of_ents he).modEnt _⟩

theorem ghostHit_track {e : Nat} {b : Bool} (h : ghostHit c e b = .ok c') :
    c'.F = c.F ++ [e] ∧ SameRef c c' := by
  unfold ghostHit at h
  obtain ⟨⟨c1, d⟩, hrd, h⟩ := bind_eq_ok.1 h
  obtain ⟨hF, hr⟩ := reclaimData_track hrd
  cases h
  have hr' : SameRef c (c1.modEnt e (fun x => { x with data := d, state := .precious })) :=
    hr.modEnt e
  cases b <;> exact ⟨congrArg (· ++ [e]) hF, hr'⟩

theorem missedTail_track {e e' k : Nat} (h : missedTail c e k = .ok (c', e')) :
    e' = e ∧ c'.F = c.F ++ [e] ∧ SameRef c c' := by
  unfold missedTail at h
  by_cases hnone : (c.dataOf e).isNone = true
  · rw [if_pos hnone] at h
    obtain ⟨⟨c2, z⟩, hev, h⟩ := bind_eq_ok.1 h
    cases h
    obtain ⟨hF, he⟩ := evictEntry_track hev
    refine ⟨rfl, congrArg (· ++ [e]) hF, ?_⟩
    show SameRef c (((c2.modEnt e _).modEnt z _).modEnt e _)
    exact (((SameRef.of_ents he).modEnt e).modEnt z).modEnt e
  · rw [if_neg hnone] at h
    cases h
    refine ⟨rfl, rfl, ?_⟩
    show SameRef c (c.modEnt e _)
    exact (SameRef.refl c).modEnt e

theorem missed_track {k e : Nat} (h : missed c k = .ok (c', e)) :
    c'.F = c.F ++ [e] ∧ SameRef c c' := by
  -- whichever entry `u` is taken off the ring, the rest is `missedTail`
  have tail : ∀ {c1 : Cache} {u : Nat}, missedTail c1 u k = missed c k → c1.F = c.F →
      c1.ents = c.ents → c'.F = c.F ++ [e] ∧ SameRef c c' := fun h1 hF he => by
    obtain ⟨rfl, hF2, hr⟩ := missedTail_track (h1.trans h)
    exact ⟨hF ▸ hF2, fun j => (hr j).trans (SameRef.of_ents he j)⟩
  cases hUl : c.U.getLast? with
  | some u => exact tail (missed_eq_U hUl).symm rfl rfl
  | none =>
    cases hGB : c.GB with
    | cons g rest => exact tail (missed_eq_GB hUl hGB).symm rfl rfl
    | nil =>
      cases hGPl : c.GP.getLast? with
      | some g => exact tail (missed_eq_GP hUl hGB hGPl).symm rfl rfl
      | none =>
        unfold missed at h
        simp only [hUl, hGB, hGPl] at h
        cases h

/-- bookkeeping of a lookup that hands out the entry `e` -/
def GetTrack (c : Cache) (k : Nat) (c' : Cache) : Out → Prop
  | .entry e true => c'.F = c.F ∧ RefLe c c' e ∧ (e < c'.ents.length → c'.refcnt e ≠ 0)
  | .entry e false =>
      ((e ∈ c.F ∧ c'.F = c.F) ∨ (c'.F = c.F ++ [e] ∧ ∀ j ∈ live c, c.key j ≠ k)) ∧ RefLe c c' e ∧
        (e < c'.ents.length → c'.refcnt e ≠ 0)
  | _ => True

theorem get_track {k : Nat} {o : Out} (hs : get c k = .ok (c', o)) :
    GetTrack c k c' o := by
  cases hP : c.P.find? (fun i => c.key i = k) with
  | some e =>
    rw [get_P hP] at hs
    cases hs
    exact ⟨rfl, refLe_incref e (SameRef.of_ents rfl)⟩
  | none =>
  cases hB : c.B.reverse.find? (fun i => c.key i = k) with
  | some e =>
    rw [get_B hP hB] at hs
    cases hs
    exact ⟨rfl, refLe_incref e (SameRef.of_ents rfl)⟩
  | none =>
  cases hF : c.F.find? (fun i => c.key i = k) with
  | some e =>
    rw [get_F hP hB hF] at hs
    cases hs
    refine ⟨Or.inl ⟨List.mem_of_find?_eq_some hF, rfl⟩, refLe_incref e ?_⟩
    show SameRef c (c.modEnt e _)
    exact (SameRef.refl c).modEnt e
  | none =>
  have hnk := no_key_of_find hP hB hF
  by_cases hb : c.pinned + c.F.length ≥ c.cap
  · rw [get_busy hP hB hF hb] at hs
    cases hs
    trivial
  · -- the three ways to a new in-flight entry: ghost hit in `GP`, ghost hit in `GB`, miss
    have ghost : ∀ {d : Nat} {b : Bool} {e : Nat}, get c k = (ghostHit { c with dprobe := d } e b).bind
        (fun c2 => .ok (incref { c2 with misses := c2.misses + 1 } e, .entry e false)) →
        GetTrack c k c' o := by
      intro d b e hget
      rw [hget] at hs
      obtain ⟨c2, hgh, hs⟩ := bind_eq_ok.1 hs
      cases hs
      obtain ⟨hF2, hr2⟩ := ghostHit_track hgh
      exact ⟨Or.inr ⟨hF2, hnk⟩, refLe_incref e hr2⟩
    cases hGP : c.GP.find? (fun i => c.key i = k) with
    | some e => exact (get_GP hP hB hF hb hGP).elim fun _ => ghost
    | none =>
    cases hGB : c.GB.reverse.find? (fun i => c.key i = k) with
    | some e => exact (get_GB hP hB hF hb hGP hGB).elim fun _ => ghost
    | none =>
      rw [get_miss hP hB hF hb hGP hGB] at hs
      obtain ⟨⟨c2, e⟩, hm, hs⟩ := bind_eq_ok.1 hs
      cases hs
      obtain ⟨hF2, hr2⟩ := missed_track hm
      exact ⟨Or.inr ⟨hF2, hnk⟩, refLe_incref e hr2⟩

/-- nothing in flight before a miss: the entry handed out is the only one in flight, with one reference -/
theorem get_quiet {k i : Nat} (h : Inv c) (hF0 : c.F = [])
    (hg : get c k = .ok (c', .entry i false)) : c'.F = [i] ∧ c'.refcnt i = 1 := by
  obtain ⟨h', hcap, hfr, hiF, hik, -⟩ := get_spec_of_ok ((inv_iff _).1 h) hg
  obtain ⟨hFF, hle, -⟩ := get_track hg
  rcases hFF with ⟨hm, -⟩ | ⟨hF1, hnk⟩
  · rw [hF0] at hm; cases hm
  · refine ⟨by rw [hF1, hF0]; rfl, ?_⟩
    -- `i` held no reference: a referenced entry keeps its key, and no live key was `k`
    have h0 : c.refcnt i = 0 := by
      apply Classical.byContradiction
      intro hne
      have hl : i ∈ live c := h.ref_live i (hcap ▸ live_lt h' (inflight_live hiF)) hne
      exact hnk i hl ((hfr.refd i hl hne).2.1 ▸ hik)
    have h1 : c'.refcnt i ≤ 0 + 1 := by
      have := hle i
      rwa [h0, if_pos rfl] at this
    exact Nat.le_antisymm h1 (Nat.pos_of_ne_zero (((inv_iff _).2 h').inflight_ref i hiF))

theorem insert_inflight {e : Nat} (hnv : (c.ent e).state ≠ .valid) (heF : e ∈ c.F) :
    ∃ B P, (B = c.B ++ [e] ∧ P = c.P ∨ B = c.B ∧ P = e :: c.P) ∧
      insert c e = .ok (Cache.modEnt { c with F := c.F.erase e, B := B, P := P } e
        (fun x => { x with state := .valid }), .done) := by
  unfold Kdf.Model.Cache.insert
  rw [if_neg hnv, if_pos heF]
  cases (c.ent e).state with
  | probe => exact ⟨_, _, Or.inl ⟨rfl, rfl⟩, rfl⟩
  | _ => exact ⟨_, _, Or.inr ⟨rfl, rfl⟩, rfl⟩

theorem insert_track {e : Nat} (hnv : (c.ent e).state ≠ .valid) (heF : e ∈ c.F) :
    ∃ c', insert c e = .ok (c', .done) ∧ c'.F = c.F.erase e ∧ e ∈ cached c' ∧
      (∀ j ∈ cached c', j = e ∨ j ∈ cached c) ∧ c'.cap = c.cap ∧
      ∀ j, c'.key j = c.key j ∧ c'.dataOf j = c.dataOf j ∧ c'.refcnt j = c.refcnt j := by
  obtain ⟨B, P, hBP, hins⟩ := insert_inflight hnv heF
  -- in either case the new arcs hold `e` and the old members, in this order
  have hmem : ∀ j, j ∈ B ++ P ↔ j ∈ c.B ∨ j = e ∨ j ∈ c.P := by
    intro j
    rcases hBP with ⟨rfl, rfl⟩ | ⟨rfl, rfl⟩
    · rw [List.append_assoc, List.mem_append, List.singleton_append, List.mem_cons]
    · rw [List.mem_append, List.mem_cons]
  have hX : SameRef c { c with F := c.F.erase e, B := B, P := P } := SameRef.of_ents rfl
  refine ⟨_, hins, rfl, (hmem e).2 (Or.inr (Or.inl rfl)), fun j hj => ?_, rfl, fun j => ?_⟩
  · rcases (hmem j).1 hj with h | h | h
    · exact Or.inr (List.mem_append_left _ h)
    · exact Or.inl h
    · exact Or.inr (List.mem_append_right _ h)
  · have := modEnt_same { c with F := c.F.erase e, B := B, P := P } e
      (fun x => { x with state := .valid }) (fun _ => rfl) (fun _ => rfl) j
    exact ⟨this.1, this.2, (hX.modEnt e (f := fun x => { x with state := .valid })) j⟩

theorem discard_inflight {e : Nat} (hr : c.refcnt e ≠ 0) (hnv : (c.ent e).state ≠ .valid)
    (heF : e ∈ c.F) :
    discard c e = .ok (if c.refcnt e = 1 then
      { decref c e with F := c.F.erase e, U := c.U ++ [e] } else decref c e, .done) := by
  rw [discard_eq hr]
  by_cases h1 : c.refcnt e = 1
  · rw [if_neg (fun h => h.elim (fun h => h h1) hnv), if_pos heF, if_pos h1]
  · rw [if_pos (Or.inl h1), if_neg h1]

theorem discard_track {e : Nat} (hr : c.refcnt e ≠ 0) (hnv : (c.ent e).state ≠ .valid)
    (heF : e ∈ c.F) :
    ∃ c', discard c e = .ok (c', .done) ∧ cached c' = cached c ∧ c'.cap = c.cap ∧
      (∀ j, c'.key j = c.key j ∧ c'.dataOf j = c.dataOf j) ∧
      (∀ j, c'.refcnt j = if j = e then c.refcnt e - 1 else c.refcnt j) ∧
      (c.refcnt e = 1 → c'.F = c.F.erase e) := by
  have hd := discard_inflight hr hnv heF
  by_cases h1 : c.refcnt e = 1
  · rw [if_pos h1] at hd
    exact ⟨_, hd, rfl, rfl, decref_same c e, refcnt_decref c (refcnt_lt_len hr), fun _ => rfl⟩
  · rw [if_neg h1] at hd
    exact ⟨_, hd, rfl, rfl, decref_same c e, refcnt_decref c (refcnt_lt_len hr), fun h => absurd h h1⟩

end Kdf.Lemmas.Hist
