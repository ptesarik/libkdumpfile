import Kdf.Model.Layout
import Kdf.Lemmas.Map
/-!
# Lemmas for C08: the generic layout machinery (`Kdf.Model.Layout`)

Facts about `setLayout` / `actDirect` / `actRdirect` / `setPhysmaps`, stated through the
function view of the maps (`Kdf.Lemmas.Map.den`, `mapSearch`, `mapSet_ok`, `mapSearch_set`), and lifted to
`Kdf.Model.Sys.conv` (the model of `addrxlat_fulladdr_conv`).
-/
namespace Kdf.Lemmas.Layout
open Kdf.Model.Pgt Kdf.Model.Sys Kdf.Model.Layout
open Kdf.Model.Map (mapSearch mapSet Range)
open Kdf.Lemmas.Map (WF den mapSet_ok mapSet_eq_ok mapSet_wf mapSearch_set mapSet_false_ok)

/-- shape invariant of a system under construction: five map slots, sixteen method
slots, sixteen offset cells, every existing map well-formed -/
structure Shape (s : LSys) : Prop where
  maps : s.sys.maps.length = 5
  meths : s.sys.meths.length = 16
  offs : s.offs.length = 16
  wf : ∀ (i : Nat) (m : Kdf.Model.Map.Map), s.sys.maps[i]? = some (some m) → WF m

theorem fresh_shape : Shape fresh := by
  refine ⟨by simp [fresh], by simp [fresh], by simp [fresh], ?_⟩
  intro i m h
  have h' : (List.replicate 5 (none : Option Kdf.Model.Map.Map))[i]? = some (some m) := h
  rw [List.getElem?_replicate] at h'
  split at h' <;> cases h'

/-- a linear method's offset cell agrees with the method (kept by all setters) -/
def OffsOK (s : LSys) : Prop :=
  ∀ (i t off : Nat), s.sys.meths[i]? = some (Meth.linear t off) → s.offs[i]? = some (some off)

/-- map slot `j` holds a map (not NULL) -/
def HasMap (s : LSys) (j : Nat) : Prop := ∃ m, s.sys.maps[j]? = some (some m)
/-- the offset cell of the DIRECT slot was last written through `param.linear.off` -/
def DirOK (s : LSys) : Prop := ∃ v, s.offs[M_DIRECT]? = some (some v)

/-- what every step of `sys_set_layout` guarantees about the system it leaves behind -/
structure Ext (s s' : LSys) : Prop where
  shape : Shape s'
  hasMap : ∀ j, HasMap s j → HasMap s' j
  dirOK : DirOK s → DirOK s'
  offsOK : OffsOK s → OffsOK s'

variable {s s' : LSys}

theorem Ext.refl (hs : Shape s) : Ext s s := ⟨hs, fun _ h => h, id, id⟩
theorem Ext.trans {a b c : LSys} (h1 : Ext a b) (h2 : Ext b c) : Ext a c :=
  ⟨h2.shape, fun j h => h2.hasMap j (h1.hasMap j h), fun h => h2.dirOK (h1.dirOK h),
   fun h => h2.offsOK (h1.offsOK h)⟩

/-- `s` with map `idx` replaced -/
def withMap (s : LSys) (idx : Nat) (m : Kdf.Model.Map.Map) : LSys :=
  ⟨⟨s.sys.maps.set idx (some m), s.sys.meths⟩, s.offs⟩

/-- `s` with method `slot` made linear -/
def withLin (s : LSys) (slot t off : Nat) : LSys :=
  ⟨⟨s.sys.maps, s.sys.meths.set slot (.linear t off)⟩, s.offs.set slot (some off)⟩

theorem ext_setMap (hs : Shape s) (idx : Nat) (m : Kdf.Model.Map.Map) (hm : WF m) :
    Ext s (withMap s idx m) := by
  unfold withMap
  refine ⟨⟨by simp [hs.maps], hs.meths, hs.offs, ?_⟩, ?_, id, id⟩
  · intro i m' h
    simp only [List.getElem?_set] at h
    split at h
    · split at h
      · injection h with h; injection h with h; subst h; exact hm
      · cases h
    · exact hs.wf i m' h
  · intro j ⟨m', h⟩
    simp only [HasMap, List.getElem?_set]
    by_cases e : idx = j
    · subst e
      have : idx < s.sys.maps.length := (List.getElem?_eq_some_iff.mp h).1
      exact ⟨m, by simp [this]⟩
    · exact ⟨m', by simp [e, h]⟩

theorem ext_setLin (hs : Shape s) (slot t off : Nat) :
    Ext s (withLin s slot t off) := by
  unfold withLin
  refine ⟨⟨hs.maps, by simp [hs.meths], by simp [hs.offs], hs.wf⟩, fun _ h => h, ?_, ?_⟩
  · intro ⟨v, h⟩
    simp only [DirOK, List.getElem?_set]
    by_cases e : slot = M_DIRECT
    · subst e
      exact ⟨off, by rw [if_pos rfl, if_pos (by rw [hs.offs]; decide)]⟩
    · exact ⟨v, by simp [e, h]⟩
  · intro ho i t' off' h
    simp only [List.getElem?_set] at h ⊢
    by_cases e : slot = i
    · subst e
      simp only [if_true] at h ⊢
      split at h
      · injection h with h; injection h with _ h; subst h
        have : slot < s.offs.length := by rw [hs.offs]; rw [hs.meths] at *; assumption
        simp [this]
      · cases h
    · simp only [e, if_false] at h ⊢
      exact ho i t' off' h

theorem setLinear_eq (hs : Shape s) {slot : Nat} (h : slot < 16) (t off : Nat) :
    setLinear s slot t off = some (withLin s slot t off) := by
  simp [setLinear, withLin, hs.meths, hs.offs, h]

theorem setLinear_none (hs : Shape s) {slot : Nat} (h : ¬ slot < 16) (t off : Nat) :
    setLinear s slot t off = none := by
  simp [setLinear, hs.meths, hs.offs, h]

theorem setLinear_ext (hs : Shape s) {slot t off : Nat}
    (h : setLinear s slot t off = some s') :
    Ext s s' ∧ slot < 16 ∧ (slot = M_DIRECT → DirOK s') := by
  by_cases hl : slot < 16
  · rw [setLinear_eq hs hl] at h
    injection h with h; subst h
    refine ⟨ext_setLin hs slot t off, hl, ?_⟩
    intro e; subst e
    exact ⟨off, List.getElem?_set_self (by rw [hs.offs]; decide)⟩
  · rw [setLinear_none hs hl] at h; cases h

/-! ### the steps of `sys_set_layout`, any allocator, any status -/

theorem ensureMap_ext (hs : Shape s) (idx : Nat) (alloc : Bool) (st : St)
    (h : ensureMap s idx alloc = (st, s')) :
    Ext s s' ∧ (st = .ok → HasMap s' idx) ∧ (alloc = true → idx < 5 → st = .ok) := by
  unfold ensureMap at h
  split at h
  · rename_i hn
    cases h
    refine ⟨Ext.refl hs, (fun e => by cases e), fun _ hi => ?_⟩
    have : idx < s.sys.maps.length := by rw [hs.maps]; exact hi
    rw [List.getElem?_eq_getElem this] at hn; cases hn
  · rename_i m hm
    cases h
    exact ⟨Ext.refl hs, fun _ => ⟨m, hm⟩, fun _ _ => rfl⟩
  · rename_i hm
    split at h
    · cases h
      refine ⟨ext_setMap hs idx [] (Or.inl rfl), fun _ => ⟨[], ?_⟩, fun _ _ => rfl⟩
      exact List.getElem?_set_self (List.getElem?_eq_some_iff.mp hm).1
    · rename_i ha
      cases h
      exact ⟨Ext.refl hs, (fun e => by cases e), fun e => absurd e ha⟩

theorem mapSetAt_ext (hs : Shape s) (idx first : Nat) (r : Range) (alloc : Bool) (st : St)
    (hr : first + r.endoff < W) (h : mapSetAt s idx first r alloc = (st, s')) :
    Ext s s' ∧ (alloc = true → HasMap s idx → st = .ok) := by
  unfold mapSetAt at h
  split at h
  case h_3 m hm =>
    have hwf : WF m := hs.wf idx m hm
    split at h
    case h_1 m' hset =>
      cases h
      have hw := mapSet_wf hwf first r hr
      rw [mapSet_false_ok hset] at hw
      exact ⟨ext_setMap hs idx m' hw, fun _ _ => rfl⟩
    -- a guarded assignment with a succeeding allocator reports `ok`
    all_goals
      rename_i m' hset
      cases h
      refine ⟨Ext.refl hs, fun ha _ => ?_⟩
      subst ha
      have := (mapSet_ok m hwf first r hr).1
      rw [hset] at this; cases this
  -- no map in the slot
  all_goals
    rename_i hn
    cases h
    exact ⟨Ext.refl hs, fun _ ⟨m, hm⟩ => by rw [hn] at hm; cases hm⟩

theorem actRdirect_ext (hs : Shape s) (rg : Region) (st : St)
    (h : actRdirect s rg = (st, s')) :
    Ext s s' ∧ (DirOK s → rg.meth < 16 → st = .ok) := by
  unfold actRdirect at h
  split at h
  case h_3 doff hd =>
    split at h
    · rename_i s1 hl
      cases h
      exact ⟨(setLinear_ext hs hl).1, fun _ _ => rfl⟩
    · rename_i hl
      cases h
      refine ⟨Ext.refl hs, fun _ hm => ?_⟩
      rw [setLinear_eq hs hm] at hl; cases hl
  -- the DIRECT offset cell was never written
  all_goals
    rename_i hn
    cases h
    exact ⟨Ext.refl hs, fun ⟨v, hv⟩ _ => by rw [hn] at hv; cases hv⟩

theorem actIdent_ext (hs : Shape s) (rg : Region) (t : Nat) (st : St)
    (h : actIdent s rg t = (st, s')) :
    Ext s s' ∧ (rg.meth < 16 → st = .ok) := by
  unfold actIdent at h
  split at h
  · rename_i s1 hl
    cases h
    exact ⟨(setLinear_ext hs hl).1, fun _ => rfl⟩
  · rename_i hl
    cases h
    refine ⟨Ext.refl hs, fun hm => ?_⟩
    rw [setLinear_eq hs hm] at hl; cases hl

/-! ### the loop -/

/-- the `switch (region->act)` of `sys_set_layout` -/
def acted (direct : LSys → Region → St × LSys) (s : LSys) (rg : Region) : St × LSys :=
  match rg.act with
  | .direct => direct s rg
  | .rdirect => actRdirect s rg
  | .identKphys => actIdent s rg KPHYS
  | .identMachphys => actIdent s rg MACHPHYS
  | .none => (.ok, s)

/-- the range a region is entered with -/
def regRange (rg : Region) : Range := ⟨(rg.last + W - rg.first) % W, (rg.meth : Int)⟩

theorem layoutLoop_cons (direct : LSys → Region → St × LSys) (alloc : Bool) (idx : Nat)
    (rg : Region) (rest : List Region) (s : LSys) :
    layoutLoop direct alloc idx (rg :: rest) s =
      match acted direct s rg with
      | (.ok, s1) =>
        (match mapSetAt s1 idx rg.first (regRange rg) alloc with
         | (.ok, s2) => layoutLoop direct alloc idx rest s2
         | bad => bad)
      | bad => bad := rfl

/-- a region that does not wrap -/
def RegOK (rg : Region) : Prop := rg.first ≤ rg.last ∧ rg.last < W

/-- the region's action reads `meth[DIRECT].param.linear.off` as left by earlier code -/
def NeedsDir (rg : Region) : Prop := rg.act = .rdirect ∨ (rg.act = .direct ∧ rg.meth ≠ M_DIRECT)

theorem regRange_endoff {rg : Region} (h : RegOK rg) : rg.first + (regRange rg).endoff = rg.last := by
  have := add_sub_mod (n := W) h.1 h.2
  simp only [regRange, this]
  have := h.1
  omega

theorem regRange_guard {rg : Region} (h : RegOK rg) : rg.first + (regRange rg).endoff < W := by
  rw [regRange_endoff h]; exact h.2

/-- `DirExt`, `DirSucc`: what is asked of the `direct` parameter of `layoutLoop` (the meaning of
`SYS_ACT_DIRECT`): `actDirect`, and for its nested call the stub that answers `undef`. -/
def DirExt (direct : LSys → Region → St × LSys) : Prop :=
  ∀ s rg st s', Shape s → RegOK rg → direct s rg = (st, s') → Ext s s'

def DirSucc (direct : LSys → Region → St × LSys) (rg : Region) : Prop :=
  rg.act = .direct → ∀ s st s', Shape s → (rg.meth ≠ M_DIRECT → DirOK s) → direct s rg = (st, s') → st = .ok

theorem acted_ext {direct : LSys → Region → St × LSys} (hdE : DirExt direct) (hs : Shape s)
    (rg : Region) (hrg : RegOK rg) (st : St) (h : acted direct s rg = (st, s')) :
    Ext s s' ∧ (DirSucc direct rg → rg.meth < 16 → (NeedsDir rg → DirOK s) → st = .ok) := by
  unfold acted at h
  split at h
  · rename_i ha
    exact ⟨hdE s rg st s' hs hrg h, fun hsucc _ hd => hsucc ha s st s' hs (fun hne => hd (Or.inr ⟨ha, hne⟩)) h⟩
  · rename_i ha
    obtain ⟨e, ok⟩ := actRdirect_ext hs rg st h
    exact ⟨e, fun _ hm hd => ok (hd (Or.inl ha)) hm⟩
  · obtain ⟨e, ok⟩ := actIdent_ext hs rg KPHYS st h
    exact ⟨e, fun _ hm _ => ok hm⟩
  · obtain ⟨e, ok⟩ := actIdent_ext hs rg MACHPHYS st h
    exact ⟨e, fun _ hm _ => ok hm⟩
  · cases h
    exact ⟨Ext.refl hs, fun _ _ _ => rfl⟩

theorem layoutLoop_ext {direct : LSys → Region → St × LSys} (hdE : DirExt direct) (alloc : Bool) (idx : Nat)
    (layout : List Region) : ∀ (s s' : LSys) (st : St), Shape s → (∀ rg ∈ layout, RegOK rg) →
    layoutLoop direct alloc idx layout s = (st, s') →
    Ext s s' ∧ (alloc = true → HasMap s idx → (∀ rg ∈ layout, rg.meth < 16) →
      (∀ rg ∈ layout, NeedsDir rg → DirOK s) → (∀ rg ∈ layout, DirSucc direct rg) → st = .ok) := by
  induction layout with
  | nil =>
    intro s s' st hs _ h
    cases h
    exact ⟨Ext.refl hs, fun _ _ _ _ _ => rfl⟩
  | cons rg rest ih =>
    intro s s' st hs hreg h
    have hrg : RegOK rg := hreg rg (List.mem_cons_self ..)
    have hreg' : ∀ r ∈ rest, RegOK r := fun r hr => hreg r (List.mem_cons_of_mem _ hr)
    rw [layoutLoop_cons] at h
    cases ha : acted direct s rg with
    | mk st1 s1 =>
      obtain ⟨e1, ok1⟩ := acted_ext hdE hs rg hrg st1 ha
      rw [ha] at h
      cases st1 with
      | ok =>
        simp only at h
        cases hm : mapSetAt s1 idx rg.first (regRange rg) alloc with
        | mk st2 s2 =>
          obtain ⟨e2, ok2⟩ :=
            mapSetAt_ext e1.shape idx rg.first (regRange rg) alloc st2 (regRange_guard hrg) hm
          rw [hm] at h
          cases st2 with
          | ok =>
            obtain ⟨e3, ok3⟩ := ih s2 s' st e2.shape hreg' h
            refine ⟨e1.trans (e2.trans e3), fun hal hmap hmeth hdir hsucc => ?_⟩
            exact ok3 hal (e2.hasMap _ (e1.hasMap _ hmap))
              (fun r hr => hmeth r (List.mem_cons_of_mem _ hr))
              (fun r hr hn => e2.dirOK (e1.dirOK (hdir r (List.mem_cons_of_mem _ hr) hn)))
              (fun r hr => hsucc r (List.mem_cons_of_mem _ hr))
          | nomem | oob | undef =>
            cases h
            exact ⟨e1.trans e2, fun hal hmap _ _ _ => ok2 hal (e1.hasMap _ hmap)⟩
      | nomem | oob | undef =>
        cases h
        exact ⟨e1, fun _ _ hmeth hdir hsucc => ok1 (hsucc rg (List.mem_cons_self ..))
          (hmeth rg (List.mem_cons_self ..)) (hdir rg (List.mem_cons_self ..))⟩

theorem setLayoutWith_ext {direct : LSys → Region → St × LSys} (hdE : DirExt direct) (alloc : Bool) (idx : Nat)
    (layout : List Region) (s s' : LSys) (st : St) (hs : Shape s) (hreg : ∀ rg ∈ layout, RegOK rg)
    (h : setLayoutWith direct alloc s idx layout = (st, s')) :
    Ext s s' ∧ (alloc = true → idx < 5 → (∀ rg ∈ layout, rg.meth < 16) →
      (∀ rg ∈ layout, NeedsDir rg → DirOK s) → (∀ rg ∈ layout, DirSucc direct rg) → st = .ok) := by
  unfold setLayoutWith at h
  cases he : ensureMap s idx alloc with
  | mk st0 s0 =>
    obtain ⟨e0, hm0, ok0⟩ := ensureMap_ext hs idx alloc st0 he
    rw [he] at h
    cases st0 with
    | ok =>
      simp only at h
      obtain ⟨e1, ok1⟩ := layoutLoop_ext hdE alloc idx layout s0 s' st e0.shape hreg h
      exact ⟨e0.trans e1, fun hal _ hmeth hdir hsucc =>
        ok1 hal (hm0 rfl) hmeth (fun r hr hn => e0.dirOK (hdir r hr hn)) hsucc⟩
    | nomem | oob | undef =>
      simp only at h
      cases h
      exact ⟨e0, fun hal hi _ _ _ => ok0 hal hi⟩

theorem dirExt_undef : DirExt (fun s _ => (St.undef, s)) := by
  intro s rg st s' hs _ h
  injection h with h1 h2; subst h2
  exact Ext.refl hs

theorem actDirect_ext (alloc : Bool) (hs : Shape s) (rg : Region) (st : St)
    (h : actDirect alloc s rg = (st, s')) :
    Ext s s' ∧ (alloc = true → rg.meth < 16 → (rg.meth ≠ M_DIRECT → DirOK s) → st = .ok) := by
  unfold actDirect at h
  split at h
  · rename_i hl
    cases h
    refine ⟨Ext.refl hs, fun _ hm _ => ?_⟩
    rw [setLinear_eq hs hm] at hl; cases hl
  · rename_i s1 hl
    obtain ⟨e1, _, hdir1⟩ := setLinear_ext hs hl
    unfold setLayoutInner at h
    have hinner : ∀ r ∈ [(⟨0, (rg.last + W - rg.first) % W, M_RDIRECT, .rdirect⟩ : Region)], RegOK r := by
      intro r hr
      rw [List.mem_singleton] at hr; subst hr
      refine ⟨Nat.zero_le _, ?_⟩
      show (rg.last + W - rg.first) % W < W
      exact Nat.mod_lt _ (by decide)
    obtain ⟨e2, ok2⟩ := setLayoutWith_ext dirExt_undef alloc MAP_KPHYS_DIRECT _ s1 s' st e1.shape hinner h
    refine ⟨e1.trans e2, fun hal _ hd => ok2 hal (by decide) ?_ ?_ ?_⟩
    · intro r hr; rw [List.mem_singleton] at hr; subst hr; show (5 : Nat) < 16; decide
    · intro r hr _
      by_cases hm : rg.meth = M_DIRECT
      · exact hdir1 hm
      · exact e1.dirOK (hd hm)
    · intro r hr ha; rw [List.mem_singleton] at hr; subst hr; cases ha

theorem dirExt_actDirect (alloc : Bool) : DirExt (actDirect alloc) :=
  fun _ rg st _ hs _ h => (actDirect_ext alloc hs rg st h).1

/-- everything `sys_set_layout` guarantees whatever its status and allocator: the resulting system
(also the partially updated one of a failing call) has the shape, existing maps stay, a written
DIRECT offset stays written, `OffsOK` is kept; and the sufficient condition for success. -/
theorem setLayout_ext (alloc : Bool) (s : LSys) (hs : Shape s) (idx : Nat) (layout : List Region)
    (hreg : ∀ rg ∈ layout, RegOK rg) (s' : LSys) (st : St) (h : setLayout alloc s idx layout = (st, s')) :
    Ext s s' ∧ (alloc = true → idx < 5 → (∀ rg ∈ layout, rg.meth < 16) →
      (∀ rg ∈ layout, NeedsDir rg → DirOK s) → st = .ok) := by
  obtain ⟨e, ok⟩ := setLayoutWith_ext (dirExt_actDirect alloc) alloc idx layout s s' st hs hreg h
  refine ⟨e, fun hal hi hmeth hdir => ok hal hi hmeth hdir ?_⟩
  intro rg hrg _ s0 st0 s0' hs0 hd0 h0
  exact (actDirect_ext alloc hs0 rg st0 h0).2 hal (hmeth rg hrg) hd0

/-- `setLayout_ext` with the definitions written out, for a succeeding allocator.  `hdir` also covers a
DIRECT region on a slot other than DIRECT: its nested RDIRECT region reads the DIRECT offset cell. -/
theorem setLayout_shape (s : LSys) (hs : Shape s) (idx : Nat) (hidx : idx < 5) (layout : List Region)
    (hreg : ∀ rg ∈ layout, rg.first ≤ rg.last ∧ rg.last < W ∧ rg.meth < 16)
    (hdir : ∀ rg ∈ layout, rg.act = .rdirect ∨ (rg.act = .direct ∧ rg.meth ≠ M_DIRECT) →
      ∃ v, s.offs[M_DIRECT]? = some (some v))
    (s' : LSys) (st : St) (h : setLayout true s idx layout = (st, s')) :
    st = .ok ∧ Shape s' ∧ (OffsOK s → OffsOK s') ∧
      (∀ (j : Nat) (m : Kdf.Model.Map.Map), s.sys.maps[j]? = some (some m) → ∃ m', s'.sys.maps[j]? = some (some m')) ∧
      ((∃ v, s.offs[M_DIRECT]? = some (some v)) → ∃ v, s'.offs[M_DIRECT]? = some (some v)) := by
  obtain ⟨e, ok⟩ := setLayout_ext true s hs idx layout (fun rg hr => ⟨(hreg rg hr).1, (hreg rg hr).2.1⟩) s' st h
  exact ⟨ok rfl hidx (fun rg hr => (hreg rg hr).2.2) hdir, e.shape, e.offsOK,
    fun j m hm => e.hasMap j ⟨m, hm⟩, e.dirOK⟩

/-- shape preservation alone needs no hypothesis on method slots, actions, allocator or status -/
theorem setLayout_shape_any (alloc : Bool) (s : LSys) (hs : Shape s) (idx : Nat) (layout : List Region)
    (hreg : ∀ rg ∈ layout, rg.first ≤ rg.last ∧ rg.last < W)
    (s' : LSys) (st : St) (h : setLayout alloc s idx layout = (st, s')) : Shape s' :=
  (setLayout_ext alloc s hs idx layout hreg s' st h).1.shape

/-! ### exact results with a succeeding allocator -/

/-- the map in slot `idx`, a NULL one read as the empty map `internal_map_new` creates -/
def curMap (s : LSys) (idx : Nat) : Kdf.Model.Map.Map :=
  match s.sys.maps[idx]? with
  | some (some m) => m
  | _ => []

/-- what map `idx` answers before the call -/
def baseFn (s : LSys) (idx : Nat) (x : Nat) : Int :=
  match s.sys.maps[idx]? with
  | some (some m0) => mapSearch m0 x
  | _ => Kdf.Model.Map.NONE

theorem mapSearch_curMap (s : LSys) (idx x : Nat) : mapSearch (curMap s idx) x = baseFn s idx x := by
  unfold curMap baseFn
  split
  · rfl
  · rfl

theorem curMap_wf (hs : Shape s) (idx : Nat) : WF (curMap s idx) := by
  unfold curMap
  split
  · rename_i m h; exact hs.wf idx m h
  · exact Or.inl rfl

theorem withMap_shape (hs : Shape s) (idx : Nat) {m : Kdf.Model.Map.Map} (hm : WF m) :
    Shape (withMap s idx m) := (ext_setMap hs idx m hm).shape

theorem ensureMap_eq (hs : Shape s) {idx : Nat} (hidx : idx < 5) :
    ensureMap s idx true = (.ok, withMap s idx (curMap s idx)) := by
  have hlt : idx < s.sys.maps.length := by rw [hs.maps]; exact hidx
  unfold ensureMap curMap withMap
  cases hm : s.sys.maps[idx]? with
  | none => rw [List.getElem?_eq_getElem hlt] at hm; cases hm
  | some x =>
    cases x with
    | none => rfl
    | some m =>
      simp only
      have : s.sys.maps.set idx (some m) = s.sys.maps := by
        apply List.ext_getElem?
        intro i
        rw [List.getElem?_set]
        by_cases e : idx = i
        · subst e; rw [if_pos rfl, if_pos hlt, hm]
        · simp [e]
      rw [this]

theorem mapSetAt_eq {idx : Nat} {m : Kdf.Model.Map.Map} (hm : s.sys.maps[idx]? = some (some m))
    (hwf : WF m) (first : Nat) (r : Range) (hr : first + r.endoff < W) :
    mapSetAt s idx first r true = (.ok, withMap s idx (mapSet m first r true).2) := by
  unfold mapSetAt withMap
  rw [hm]
  simp only
  rw [mapSet_eq_ok hwf first r hr]

/-- a layout of one region -/
theorem setLayoutWith_single (direct : LSys → Region → St × LSys) (hs : Shape s) {idx : Nat}
    (hidx : idx < 5) (rg : Region) (hrg : RegOK rg) (s2 : LSys)
    (hact : acted direct (withMap s idx (curMap s idx)) rg = (.ok, s2))
    (m : Kdf.Model.Map.Map) (hm : s2.sys.maps[idx]? = some (some m)) (hwf : WF m) :
    setLayoutWith direct true s idx [rg] =
      (.ok, withMap s2 idx (mapSet m rg.first (regRange rg) true).2) := by
  unfold setLayoutWith
  rw [ensureMap_eq hs hidx]
  simp only
  rw [layoutLoop_cons, hact]
  simp only
  rw [mapSetAt_eq hm hwf rg.first (regRange rg) (regRange_guard hrg)]
  rfl

/-! ### plain layouts -/

/-- a layout of regions without actions (`SYS_ACT_NONE`): the map becomes the point-wise
update by the regions in order (later regions win), methods untouched -/
def regionsDen (base : Nat → Int) : List Region → Nat → Int
  | [], a => base a
  | rg :: rest, a => regionsDen (fun x => if rg.first ≤ x ∧ x ≤ rg.last then (rg.meth : Int) else base x) rest a

theorem regionsDen_congr (l : List Region) : ∀ (f g : Nat → Int) (a : Nat), f a = g a →
    regionsDen f l a = regionsDen g l a := by
  induction l with
  | nil => intro f g a h; exact h
  | cons rg rest ih =>
    intro f g a h
    simp only [regionsDen]
    apply ih
    simp only [h]

theorem withMap_get_self {idx : Nat} (h : idx < s.sys.maps.length) (m : Kdf.Model.Map.Map) :
    (withMap s idx m).sys.maps[idx]? = some (some m) := List.getElem?_set_self h

@[simp] theorem withMap_maps (s : LSys) (idx : Nat) (m : Kdf.Model.Map.Map) :
    (withMap s idx m).sys.maps = s.sys.maps.set idx (some m) := rfl
@[simp] theorem withMap_meths (s : LSys) (idx : Nat) (m : Kdf.Model.Map.Map) :
    (withMap s idx m).sys.meths = s.sys.meths := rfl
@[simp] theorem withLin_maps (s : LSys) (slot t off : Nat) :
    (withLin s slot t off).sys.maps = s.sys.maps := rfl
@[simp] theorem withLin_meths (s : LSys) (slot t off : Nat) :
    (withLin s slot t off).sys.meths = s.sys.meths.set slot (.linear t off) := rfl

theorem layoutLoop_plain (direct : LSys → Region → St × LSys) (idx : Nat) (layout : List Region) :
    ∀ (s : LSys) (m : Kdf.Model.Map.Map), Shape s → s.sys.maps[idx]? = some (some m) →
    (∀ rg ∈ layout, RegOK rg ∧ rg.act = .none) →
    ∃ s' m', layoutLoop direct true idx layout s = (.ok, s') ∧ Shape s' ∧ s'.sys.meths = s.sys.meths ∧
      s'.offs = s.offs ∧ s'.sys.maps[idx]? = some (some m') ∧
      (∀ i : Nat, i ≠ idx → s'.sys.maps[i]? = s.sys.maps[i]?) ∧
      ∀ a, a < W → mapSearch m' a = regionsDen (fun x => mapSearch m x) layout a := by
  induction layout with
  | nil =>
    intro s m hs hm _
    exact ⟨s, m, rfl, hs, rfl, rfl, hm, fun _ _ => rfl, fun _ _ => rfl⟩
  | cons rg rest ih =>
    intro s m hs hm hreg
    obtain ⟨hrg, hnone⟩ := hreg rg (List.mem_cons_self ..)
    have hwf : WF m := hs.wf idx m hm
    have hlt : idx < s.sys.maps.length := (List.getElem?_eq_some_iff.mp hm).1
    have hact : acted direct s rg = (.ok, s) := by unfold acted; rw [hnone]
    have hguard := regRange_guard hrg
    have hwf2 := mapSet_wf hwf rg.first (regRange rg) hguard
    obtain ⟨s', m', hrun, hs', hme, hof, hmap, hfr, hden⟩ :=
      ih (withMap s idx (mapSet m rg.first (regRange rg) true).2) _ (withMap_shape hs idx hwf2)
        (withMap_get_self hlt _) (fun r hr => hreg r (List.mem_cons_of_mem _ hr))
    refine ⟨s', m', ?_, hs', hme, hof, hmap, ?_, ?_⟩
    · rw [layoutLoop_cons, hact]
      simp only
      rw [mapSetAt_eq hm hwf rg.first (regRange rg) hguard]
      exact hrun
    · intro i hi
      rw [hfr i hi]
      simp [Ne.symm hi]
    · intro a ha
      rw [hden a ha]
      simp only [regionsDen]
      apply regionsDen_congr
      rw [mapSearch_set hwf rg.first (regRange rg) hguard a, regRange_endoff hrg]
      rfl

theorem setLayout_plain (s : LSys) (hs : Shape s) (idx : Nat) (hidx : idx < 5) (layout : List Region)
    (hreg : ∀ rg ∈ layout, rg.first ≤ rg.last ∧ rg.last < W ∧ rg.act = .none) :
    ∃ s' m', setLayout true s idx layout = (.ok, s') ∧ Shape s' ∧ s'.sys.meths = s.sys.meths ∧ s'.offs = s.offs ∧
      s'.sys.maps[idx]? = some (some m') ∧
      (∀ i : Nat, i ≠ idx → s'.sys.maps[i]? = s.sys.maps[i]?) ∧
      ∀ a, a < W → mapSearch m' a =
        regionsDen (fun x => match s.sys.maps[idx]? with
                             | some (some m0) => mapSearch m0 x
                             | _ => Kdf.Model.Map.NONE) layout a := by
  have hlt : idx < s.sys.maps.length := by rw [hs.maps]; exact hidx
  obtain ⟨s', m', hrun, hs', hme, hof, hmap, hfr, hden⟩ :=
    layoutLoop_plain (actDirect true) idx layout (withMap s idx (curMap s idx)) (curMap s idx)
      (withMap_shape hs idx (curMap_wf hs idx)) (withMap_get_self hlt _)
      (fun r hr => ⟨⟨(hreg r hr).1, (hreg r hr).2.1⟩, (hreg r hr).2.2⟩)
  refine ⟨s', m', ?_, hs', hme, hof, hmap, ?_, ?_⟩
  · unfold setLayout setLayoutWith
    rw [ensureMap_eq hs hidx]
    exact hrun
  · intro i hi
    rw [hfr i hi]
    simp [Ne.symm hi]
  · intro a ha
    rw [hden a ha]
    apply regionsDen_congr
    exact mapSearch_curMap s idx a

/-! ### `act_direct` -/

theorem curMap_congr {idx : Nat} (h : s'.sys.maps[idx]? = s.sys.maps[idx]?) :
    curMap s' idx = curMap s idx := by
  unfold curMap; rw [h]

/-- the system `act_direct` leaves behind, as an explicit term -/
def directResult (s : LSys) (first last : Nat) : LSys :=
  let s1 := withMap s MAP_KV_PHYS (curMap s MAP_KV_PHYS)
  let s2 := withLin s1 M_DIRECT KPHYS ((W - first) % W)
  let s3 := withMap s2 MAP_KPHYS_DIRECT (curMap s MAP_KPHYS_DIRECT)
  let s4 := withLin s3 M_RDIRECT KV ((W - (W - first) % W) % W)
  let s5 := withMap s4 MAP_KPHYS_DIRECT
    (mapSet (curMap s MAP_KPHYS_DIRECT) 0 ⟨((last + W - first) % W + W - 0) % W, (M_RDIRECT : Nat)⟩ true).2
  withMap s5 MAP_KV_PHYS
    (mapSet (curMap s MAP_KV_PHYS) first ⟨(last + W - first) % W, (M_DIRECT : Nat)⟩ true).2

theorem setLayout_direct_eq (s : LSys) (hs : Shape s) (first last : Nat) (hfl : first ≤ last) (hl : last < W) :
    setLayout true s MAP_KV_PHYS [⟨first, last, M_DIRECT, .direct⟩] = (.ok, directResult s first last) := by
  have hL : (last + W - first) % W = last - first := add_sub_mod hfl hl
  have hLlt : last - first < W := by omega
  have h5 : s.sys.maps.length = 5 := hs.maps
  have hs1 : Shape (withMap s MAP_KV_PHYS (curMap s MAP_KV_PHYS)) := withMap_shape hs MAP_KV_PHYS (curMap_wf hs MAP_KV_PHYS)
  have hs2 := (ext_setLin hs1 M_DIRECT KPHYS ((W - first) % W)).shape
  have hcm : curMap (withLin (withMap s MAP_KV_PHYS (curMap s MAP_KV_PHYS)) M_DIRECT KPHYS ((W - first) % W)) MAP_KPHYS_DIRECT = curMap s MAP_KPHYS_DIRECT :=
    curMap_congr (by simp [MAP_KV_PHYS, MAP_KPHYS_DIRECT])
  have hs3 := withMap_shape hs2 MAP_KPHYS_DIRECT (curMap_wf hs MAP_KPHYS_DIRECT)
  have hact : acted (actDirect true) (withMap s MAP_KV_PHYS (curMap s MAP_KV_PHYS)) ⟨first, last, M_DIRECT, .direct⟩ =
      (.ok, withMap (withLin (withMap (withLin (withMap s MAP_KV_PHYS (curMap s MAP_KV_PHYS)) M_DIRECT KPHYS ((W - first) % W)) MAP_KPHYS_DIRECT (curMap s MAP_KPHYS_DIRECT))
        M_RDIRECT KV ((W - (W - first) % W) % W)) MAP_KPHYS_DIRECT
        (mapSet (curMap s MAP_KPHYS_DIRECT) 0 ⟨((last + W - first) % W + W - 0) % W, (M_RDIRECT : Nat)⟩ true).2) := by
    show actDirect true _ _ = _
    unfold actDirect
    rw [setLinear_eq hs1 (show M_DIRECT < 16 by decide)]
    -- the nested call
    refine setLayoutWith_single _ hs2 (by decide) _ ⟨Nat.zero_le _, by rw [hL]; exact hLlt⟩ _ ?_
      (curMap s MAP_KPHYS_DIRECT) ?_ (curMap_wf hs MAP_KPHYS_DIRECT)
    · rw [hcm]
      show actRdirect _ _ = _
      unfold actRdirect
      have : (withMap (withLin (withMap s MAP_KV_PHYS (curMap s MAP_KV_PHYS)) M_DIRECT KPHYS ((W - first) % W)) MAP_KPHYS_DIRECT (curMap s MAP_KPHYS_DIRECT)).offs[M_DIRECT]?
          = some (some ((W - first) % W)) :=
        List.getElem?_set_self (by rw [hs1.offs]; decide)
      rw [this]
      simp only
      rw [setLinear_eq hs3 (by decide)]
    · simp [MAP_KV_PHYS, MAP_KPHYS_DIRECT, h5]
  unfold setLayout
  rw [setLayoutWith_single _ hs (by decide) _ ⟨hfl, hl⟩ _ hact (curMap s MAP_KV_PHYS) ?_ (curMap_wf hs MAP_KV_PHYS)]
  · rfl
  · simp [MAP_KV_PHYS, MAP_KPHYS_DIRECT, h5]

/-- One DIRECT region `[first, last]` set up through `act_direct` on the
KV→PHYS map: the call succeeds; the DIRECT method is `va ↦ va - first` into KPHYSADDR; the
RDIRECT method is `pa ↦ pa + first` into KVADDR; the KV→PHYS map sends exactly `[first, last]` to
DIRECT and is unchanged elsewhere; the KPHYS→DIRECT map sends exactly `[0, last - first]` to RDIRECT
and is unchanged elsewhere. -/
theorem direct_def (s : LSys) (hs : Shape s) (first last : Nat) (hfl : first ≤ last) (hl : last < W) :
    ∃ s', setLayout true s MAP_KV_PHYS [⟨first, last, M_DIRECT, .direct⟩] = (.ok, s') ∧ Shape s' ∧
      s'.sys.meths[M_DIRECT]? = some (.linear KPHYS ((W - first) % W)) ∧
      s'.sys.meths[M_RDIRECT]? = some (.linear KV first) ∧
      (∀ i : Nat, i ≠ M_DIRECT → i ≠ M_RDIRECT → s'.sys.meths[i]? = s.sys.meths[i]?) ∧
      (∃ mk, s'.sys.maps[MAP_KV_PHYS]? = some (some mk) ∧
        ∀ va, va < W → mapSearch mk va =
          if first ≤ va ∧ va ≤ last then (M_DIRECT : Int)
          else match s.sys.maps[MAP_KV_PHYS]? with
            | some (some m0) => mapSearch m0 va
            | _ => Kdf.Model.Map.NONE) ∧
      (∃ md, s'.sys.maps[MAP_KPHYS_DIRECT]? = some (some md) ∧
        ∀ pa, pa < W → mapSearch md pa =
          if pa ≤ last - first then (M_RDIRECT : Int)
          else match s.sys.maps[MAP_KPHYS_DIRECT]? with
            | some (some m0) => mapSearch m0 pa
            | _ => Kdf.Model.Map.NONE) ∧
      (∀ i : Nat, i ≠ MAP_KV_PHYS → i ≠ MAP_KPHYS_DIRECT → s'.sys.maps[i]? = s.sys.maps[i]?) := by
  have heq := setLayout_direct_eq s hs first last hfl hl
  have hf : first < W := Nat.lt_of_le_of_lt hfl hl
  have hL : (last + W - first) % W = last - first := add_sub_mod hfl hl
  have hL2 : (last - first + W - 0) % W = last - first := add_sub_mod (Nat.zero_le _) (by omega)
  have h5 : s.sys.maps.length = 5 := hs.maps
  have h16 : s.sys.meths.length = 16 := hs.meths
  have hshape : Shape (directResult s first last) :=
    (setLayout_ext true s hs _ _ (by
      intro r hr; rw [List.mem_singleton] at hr; subst hr; exact ⟨hfl, hl⟩) _ _ heq).1.shape
  refine ⟨_, heq, hshape, ?_, ?_, ?_,
    ⟨(mapSet (curMap s MAP_KV_PHYS) first ⟨(last + W - first) % W, (M_DIRECT : Nat)⟩ true).2, ?_, ?_⟩,
    ⟨(mapSet (curMap s MAP_KPHYS_DIRECT) 0 ⟨((last + W - first) % W + W - 0) % W, (M_RDIRECT : Nat)⟩ true).2, ?_, ?_⟩, ?_⟩
  · simp [directResult, M_DIRECT, M_RDIRECT, MAP_KV_PHYS, MAP_KPHYS_DIRECT, h16]
  · simp [directResult, M_DIRECT, M_RDIRECT, MAP_KV_PHYS, MAP_KPHYS_DIRECT, h16, neg_neg_mod hf]
  · intro i h2 h5'
    simp [directResult, M_DIRECT, M_RDIRECT, MAP_KV_PHYS, MAP_KPHYS_DIRECT, Ne.symm h2, Ne.symm h5']
  · simp [directResult, M_DIRECT, M_RDIRECT, MAP_KV_PHYS, MAP_KPHYS_DIRECT, h5]
  · intro va hva
    have hg : first + (last + W - first) % W < W := by rw [hL]; omega
    rw [mapSearch_set (curMap_wf hs MAP_KV_PHYS) first ⟨_, _⟩ hg va, mapSearch_curMap]
    have : first + (last + W - first) % W = last := by rw [hL]; omega
    simp only [this]
    rfl
  · simp [directResult, M_DIRECT, M_RDIRECT, MAP_KV_PHYS, MAP_KPHYS_DIRECT, h5]
  · intro pa hpa
    have hg : 0 + ((last + W - first) % W + W - 0) % W < W := by rw [hL, hL2]; omega
    rw [mapSearch_set (curMap_wf hs MAP_KPHYS_DIRECT) 0 ⟨_, _⟩ hg pa, mapSearch_curMap]
    have : 0 + ((last + W - first) % W + W - 0) % W = last - first := by rw [hL, hL2]; omega
    simp only [this, Nat.zero_le, true_and]
    rfl
  · intro i h1 h2
    simp [directResult, M_DIRECT, M_RDIRECT, MAP_KV_PHYS, MAP_KPHYS_DIRECT, Ne.symm h1, Ne.symm h2]

/-! ### `addrxlat_fulladdr_conv` through a linear method -/

theorem tryAlt_linear_hit (sys : Sys) (caps : Nat) (wk : WalkFn) (mi : Nat) (ms : List Nat) (a : FullAddr)
    (m : Kdf.Model.Map.Map) (slot t off : Nat)
    (has : a.as = mapExpectAs mi) (hm : sys.maps[mi]? = some (some m))
    (hs : mapSearch m a.addr = (slot : Int)) (hmeth : sys.meths[slot]? = some (.linear t off))
    (hc : capsHas caps t = true) :
    tryAlt sys caps wk (mi :: ms) a = .done (.call ⟨(a.addr + off) % W, t⟩) := by
  have hne : ¬ ((slot : Int) = Kdf.Model.Map.NONE) := by simp only [Kdf.Model.Map.NONE]; omega
  have hma : methAt sys (slot : Int) = some (.linear t off) := by
    simp only [methAt]; rw [if_neg (by omega)]; simpa using hmeth
  simp only [tryAlt, has, hm, hs, hne, hma, hc, ne_eq, not_true_eq_false, if_false, if_true]

theorem op_succ_doOp (c : Cfg) (fuel caps : Nat) (a : FullAddr) (sys : Sys) (ch : Chain)
    (hp : pre c caps a = .ok (sys, ch)) :
    ∃ wk, op c (fuel+1) caps [] a = doOp sys caps wk ch.alts a := by
  rw [op, hp]
  exact ⟨_, rfl⟩

/-- `conv` through the first alternative of the first stage when it hits a linear method into
`target` -/
theorem conv_linear (c : Cfg) (sys : Sys) (hc : c.sys = some sys) (target : Nat) (addr src : Nat) (ch : Chain)
    (h1 : capsHas (capsOf target) src = false) (h2 : ¬ (capsOf target % 8 = 0))
    (h3 : chainOf (capsOf target) src = some ch) (mi : Nat) (ms : List Nat) (rest : List (List Nat))
    (halts : ch.alts = (mi :: ms) :: rest)
    (m : Kdf.Model.Map.Map) (slot off : Nat)
    (has : src = mapExpectAs mi) (hm : sys.maps[mi]? = some (some m))
    (hs : mapSearch m addr = (slot : Int)) (hmeth : sys.meths[slot]? = some (.linear target off))
    (h4 : capsHas (capsOf target) target = true) :
    conv c target ⟨addr, src⟩ = some (.ok, ⟨(addr + off) % W, target⟩) := by
  have hp : pre c (capsOf target) ⟨addr, src⟩ = .ok (sys, ch) := by
    simp only [pre, h1, h2, hc, h3]; simp
  obtain ⟨wk, hop⟩ := op_succ_doOp c (MAX_INFLIGHT - 1) (capsOf target) ⟨addr, src⟩ sys ch hp
  have : opTop c (capsOf target) ⟨addr, src⟩ = doOp sys (capsOf target) wk ch.alts ⟨addr, src⟩ := hop
  simp only [conv, this, halts, doOp]
  rw [tryAlt_linear_hit sys _ _ mi ms ⟨addr, src⟩ m slot target off has hm hs hmeth h4]

/-- what `addrxlat_fulladdr_conv` does with a linear region, forward direction
(KVADDR → KPHYSADDR through map KV_PHYS): the model's `conv` takes the first-match linear
shortcut -/
theorem conv_kv_linear (c : Cfg) (sys : Sys) (hc : c.sys = some sys) (mk : Kdf.Model.Map.Map)
    (hmk : sys.maps[MAP_KV_PHYS]? = some (some mk)) (va : Nat) (slot : Nat) (off : Nat)
    (hsearch : mapSearch mk va = (slot : Int)) (hmeth : sys.meths[slot]? = some (.linear KPHYS off)) :
    conv c KPHYS ⟨va, KV⟩ = some (.ok, ⟨(va + off) % W, KPHYS⟩) :=
  conv_linear c sys hc KPHYS va KV .kv2phys (by decide) (by decide) (by decide) MAP_KV_PHYS [MAP_HW]
    [[MAP_MACHPHYS_KPHYS, MAP_KPHYS_MACHPHYS]] rfl
    mk slot off rfl hmk hsearch hmeth (by decide)

/-- reverse direction (KPHYSADDR → KVADDR through map KPHYS_DIRECT) -/
theorem conv_kphys_linear (c : Cfg) (sys : Sys) (hc : c.sys = some sys) (md : Kdf.Model.Map.Map)
    (hmd : sys.maps[MAP_KPHYS_DIRECT]? = some (some md)) (pa : Nat) (slot : Nat) (off : Nat)
    (hsearch : mapSearch md pa = (slot : Int)) (hmeth : sys.meths[slot]? = some (.linear KV off)) :
    conv c KV ⟨pa, KPHYS⟩ = some (.ok, ⟨(pa + off) % W, KV⟩) :=
  conv_linear c sys hc KV pa KPHYS .kphys2direct (by decide) (by decide) (by decide) MAP_KPHYS_DIRECT [] [] rfl
    md slot off rfl hmd hsearch hmeth (by decide)

/-- In the system produced by `direct_def`, whatever memory and read
capabilities: every physical address the reverse direct map accepts (`pa ≤ last - first`) becomes
`pa + first`, and that virtual address converts back to `pa`; every `va` in `[first, last]`
converts to `va - first`, which converts back to `va`. -/
theorem rdirect_direct_id (s : LSys) (hs : Shape s) (first last : Nat) (hfl : first ≤ last) (hl : last < W)
    (s' : LSys) (h : setLayout true s MAP_KV_PHYS [⟨first, last, M_DIRECT, .direct⟩] = (.ok, s'))
    (readCaps : Nat) (pm : Mem) :
    let c : Cfg := ⟨some s'.sys, readCaps, pm⟩
    (∀ pa, pa ≤ last - first →
      conv c KV ⟨pa, KPHYS⟩ = some (.ok, ⟨pa + first, KV⟩) ∧
      conv c KPHYS ⟨pa + first, KV⟩ = some (.ok, ⟨pa, KPHYS⟩)) ∧
    (∀ va, first ≤ va → va ≤ last →
      conv c KPHYS ⟨va, KV⟩ = some (.ok, ⟨va - first, KPHYS⟩) ∧
      conv c KV ⟨va - first, KPHYS⟩ = some (.ok, ⟨va, KV⟩)) := by
  intro c
  obtain ⟨s'', heq, _, hm2, hm5, _, ⟨mk, hmk, hsk⟩, ⟨md, hmd, hsd⟩, _⟩ := direct_def s hs first last hfl hl
  rw [h] at heq
  injection heq with _ e
  subst e
  have fwd : ∀ va, first ≤ va → va ≤ last → conv c KPHYS ⟨va, KV⟩ = some (.ok, ⟨va - first, KPHYS⟩) := by
    intro va h1 h2
    have hva : va < W := by omega
    have := conv_kv_linear c s'.sys rfl mk hmk va M_DIRECT ((W - first) % W)
      (by rw [hsk va hva, if_pos ⟨h1, h2⟩]) hm2
    rw [this, add_neg_mod h1 hva]
  have bwd : ∀ pa, pa ≤ last - first → conv c KV ⟨pa, KPHYS⟩ = some (.ok, ⟨pa + first, KV⟩) := by
    intro pa h1
    have hpa : pa + first < W := by omega
    have := conv_kphys_linear c s'.sys rfl md hmd pa M_RDIRECT first
      (by rw [hsd pa (by omega), if_pos h1]) hm5
    rw [this, Nat.mod_eq_of_lt hpa]
  refine ⟨fun pa hpa => ⟨bwd pa hpa, ?_⟩, fun va h1 h2 => ⟨fwd va h1 h2, ?_⟩⟩
  · have := fwd (pa + first) (by omega) (by omega)
    rw [Nat.add_sub_cancel] at this; exact this
  · have := bwd (va - first) (by omega)
    rw [Nat.sub_add_cancel h1] at this; exact this

/-! ### `act_ident_*` and `sys_set_physmaps` -/

/-- one `SYS_ACT_IDENT_KPHYS` / `SYS_ACT_IDENT_MACHPHYS` region `[0, maxaddr]`, exact result -/
theorem setLayout_ident_eq (s : LSys) (hs : Shape s) (idx : Nat) (hidx : idx < 5) (slot : Nat) (hslot : slot < 16)
    (maxaddr : Nat) (hm : maxaddr < W) (act : Act) (t : Nat)
    (hact : (act = .identKphys ∧ t = KPHYS) ∨ (act = .identMachphys ∧ t = MACHPHYS)) :
    setLayout true s idx [⟨0, maxaddr, slot, act⟩] =
      (.ok, withMap (withLin (withMap s idx (curMap s idx)) slot t 0) idx
        (mapSet (curMap s idx) 0 ⟨(maxaddr + W - 0) % W, (slot : Int)⟩ true).2) := by
  have hs1 : Shape (withMap s idx (curMap s idx)) := withMap_shape hs idx (curMap_wf hs idx)
  have hlt : idx < s.sys.maps.length := by rw [hs.maps]; exact hidx
  have hactd : acted (actDirect true) (withMap s idx (curMap s idx)) ⟨0, maxaddr, slot, act⟩ =
      (.ok, withLin (withMap s idx (curMap s idx)) slot t 0) := by
    have hid : actIdent (withMap s idx (curMap s idx)) ⟨0, maxaddr, slot, act⟩ t =
        (.ok, withLin (withMap s idx (curMap s idx)) slot t 0) := by
      unfold actIdent; rw [setLinear_eq hs1 hslot]
    rcases hact with ⟨rfl, rfl⟩ | ⟨rfl, rfl⟩
    · exact hid
    · exact hid
  unfold setLayout
  rw [setLayoutWith_single _ hs hidx _ ⟨Nat.zero_le _, hm⟩ _ hactd (curMap s idx) ?_ (curMap_wf hs idx)]
  · rfl
  · show (List.set s.sys.maps idx _)[idx]? = _
    exact List.getElem?_set_self hlt

/-- `sys_set_physmaps`: identity both ways on `[0, maxaddr]` -/
theorem physmaps_ident (s : LSys) (hs : Shape s) (maxaddr : Nat) (hm : maxaddr < W) :
    ∃ s', setPhysmaps true s maxaddr = (.ok, s') ∧ Shape s' ∧
      ∀ readCaps pm pa, pa ≤ maxaddr →
        conv ⟨some s'.sys, readCaps, pm⟩ KPHYS ⟨pa, MACHPHYS⟩ = some (.ok, ⟨pa, KPHYS⟩) ∧
        conv ⟨some s'.sys, readCaps, pm⟩ MACHPHYS ⟨pa, KPHYS⟩ = some (.ok, ⟨pa, MACHPHYS⟩) := by
  have e1 := setLayout_ident_eq s hs MAP_MACHPHYS_KPHYS (by decide) M_MACHPHYS_KPHYS (by decide) maxaddr hm .identKphys KPHYS (Or.inl ⟨rfl, rfl⟩)
  have hreg : ∀ (slot : Nat) (act : Act), ∀ r ∈ [(⟨0, maxaddr, slot, act⟩ : Region)], RegOK r := by
    intro slot act r hr; rw [List.mem_singleton] at hr; subst hr; exact ⟨Nat.zero_le _, hm⟩
  have hs1 := (setLayout_ext true s hs _ _ (hreg _ _) _ _ e1).1.shape
  have e2 := setLayout_ident_eq _ hs1 MAP_KPHYS_MACHPHYS (by decide) M_KPHYS_MACHPHYS (by decide) maxaddr hm .identMachphys MACHPHYS
    (Or.inr ⟨rfl, rfl⟩)
  have hs2 := (setLayout_ext true _ hs1 _ _ (hreg _ _) _ _ e2).1.shape
  have h5 : s.sys.maps.length = 5 := hs.maps
  have h16 : s.sys.meths.length = 16 := hs.meths
  have hM : (maxaddr + W - 0) % W = maxaddr := add_sub_mod (Nat.zero_le _) hm
  refine ⟨_, ?_, hs2, ?_⟩
  · unfold setPhysmaps
    rw [e1]
    exact e2
  · intro readCaps pm pa hpa
    have hpaW : pa < W := by omega
    have hg : 0 + (maxaddr + W - 0) % W < W := by rw [hM]; omega
    have hin : (0 ≤ pa ∧ pa ≤ 0 + (maxaddr + W - 0) % W) := by rw [hM]; omega
    constructor
    · refine (conv_linear _ _ rfl KPHYS pa MACHPHYS .machphys2direct (by decide) (by decide)
        (by decide) MAP_MACHPHYS_KPHYS [] [[MAP_KPHYS_DIRECT]] rfl
        (mapSet (curMap s MAP_MACHPHYS_KPHYS) 0 ⟨(maxaddr + W - 0) % W, (M_MACHPHYS_KPHYS : Int)⟩ true).2
        M_MACHPHYS_KPHYS 0 rfl ?_ ?_ ?_
        (by decide)).trans ?_
      rotate_right
      · rw [Nat.add_zero, Nat.mod_eq_of_lt hpaW]
      · simp [MAP_MACHPHYS_KPHYS, MAP_KPHYS_MACHPHYS, h5]
      · rw [mapSearch_set (curMap_wf hs MAP_MACHPHYS_KPHYS) 0 ⟨_, _⟩ hg pa, if_pos hin]
      · simp [M_MACHPHYS_KPHYS, M_KPHYS_MACHPHYS, h16]
    · refine (conv_linear _ _ rfl MACHPHYS pa KPHYS .kphys2machphys (by decide) (by decide)
        (by decide) MAP_KPHYS_MACHPHYS [] [] rfl
        (mapSet (curMap (withMap (withLin (withMap s MAP_MACHPHYS_KPHYS (curMap s MAP_MACHPHYS_KPHYS))
          M_MACHPHYS_KPHYS KPHYS 0) MAP_MACHPHYS_KPHYS
          (mapSet (curMap s MAP_MACHPHYS_KPHYS) 0 ⟨(maxaddr + W - 0) % W, (M_MACHPHYS_KPHYS : Int)⟩ true).2)
          MAP_KPHYS_MACHPHYS) 0
          ⟨(maxaddr + W - 0) % W, (M_KPHYS_MACHPHYS : Int)⟩ true).2 M_KPHYS_MACHPHYS 0 rfl ?_ ?_ ?_ (by decide)).trans ?_
      rotate_right
      · rw [Nat.add_zero, Nat.mod_eq_of_lt hpaW]
      · simp [MAP_MACHPHYS_KPHYS, MAP_KPHYS_MACHPHYS, h5]
      · rw [mapSearch_set (curMap_wf hs1 MAP_KPHYS_MACHPHYS) 0 ⟨_, _⟩ hg pa, if_pos hin]
      · simp [M_MACHPHYS_KPHYS, M_KPHYS_MACHPHYS, h16]

end Kdf.Lemmas.Layout
