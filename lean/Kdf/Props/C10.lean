import Kdf.Model.Map
import Kdf.Lemmas.Map
/-!
# C10 — a translation map behaves as a total function from addresses to methods

The lemmas on `addrxlat_map_set` itself live in `Kdf/Lemmas/Map.lean`.
The only hypothesis besides well-formedness is the no-wrap guard
`addr + r.endoff < W` (a range that wraps around the top of the address space
is outside the property).
-/
namespace Kdf.Props.C10
open Kdf.Model.Map Kdf.Lemmas.Map

/-- `search` returns the function's value for every address. -/
theorem search_eq_den (m : Map) (h : WF m) (a : Nat) (ha : a < W) :
    mapSearch m a = den m 0 a := by
  have _ := ha
  exact mapSearch_eq_den m h a

/-- A guarded `set` with a succeeding allocation succeeds (in particular the
model never reports an out-of-bounds access on a well-formed map). -/
theorem set_ok (m : Map) (h : WF m) (addr : Nat) (r : Range) (hr : addr + r.endoff < W) :
    (mapSet m addr r true).1 = .ok :=
  (mapSet_ok m h addr r hr).1

/-- The result tiles the whole address space: it is non-empty and its ranges
add up to exactly `2^64` (range starts are implicit, so there can be no gaps,
and every range has at least one address). -/
theorem set_wf (m : Map) (h : WF m) (addr : Nat) (r : Range) (hr : addr + r.endoff < W) :
    (mapSet m addr r true).2 ≠ [] ∧ total (mapSet m addr r true).2 = W := by
  obtain ⟨-, hne, ht, -⟩ := mapSet_ok m h addr r hr
  exact ⟨hne, ht⟩

/-- Setting a range changes the function on exactly that range. -/
theorem set_den (m : Map) (h : WF m) (addr : Nat) (r : Range) (hr : addr + r.endoff < W)
    (a : Nat) (ha : a < W) :
    den (mapSet m addr r true).2 0 a =
      if addr ≤ a ∧ a ≤ addr + r.endoff then r.meth else den m 0 a := by
  have _ := ha
  obtain ⟨-, -, -, hd⟩ := mapSet_ok m h addr r hr
  exact hd a

/-- If the allocation fails, either the call reports `nomem` and the map is
unchanged, or no allocation was needed and the outcome is the same as with a
succeeding allocator. -/
theorem set_nomem (m : Map) (addr : Nat) (r : Range) :
    mapSet m addr r false = (.nomem, m) ∨ mapSet m addr r false = mapSet m addr r true :=
  mapSet_nomem m addr r

/-- Failed allocations never surface as anything but `nomem`. -/
theorem set_status (m : Map) (h : WF m) (addr : Nat) (r : Range) (hr : addr + r.endoff < W) (ok : Bool) :
    (mapSet m addr r ok).1 = .ok ∨ ((mapSet m addr r ok).1 = .nomem ∧ ok = false) := by
  cases ok with
  | true => exact Or.inl (set_ok m h addr r hr)
  | false =>
    rcases set_nomem m addr r with e | e
    · exact Or.inr ⟨by rw [e], rfl⟩
    · exact Or.inl (by rw [e]; exact set_ok m h addr r hr)

/-- Copy yields an equal map (independence of the copy is a property of C
aliasing and is checked by the correspondence stream only). -/
theorem copy_eq (m : Map) : mapCopy m true true = some m := by simp [mapCopy]

theorem copy_fail (m : Map) (a b : Bool) (h : (a && b) = false) : mapCopy m a b = none := by
  simp [mapCopy, h]

/-! ### Lift over histories -/

/-- One API operation on a map. -/
inductive Op
  | set (addr : Nat) (r : Range) (allocOk : Bool)
  deriving Repr

def Op.guarded : Op → Prop
  | .set addr r _ => addr + r.endoff < W

/-- Run a history on the model. -/
def run : Map → List Op → Map
  | m, [] => m
  | m, .set addr r ok :: ops => run (mapSet m addr r ok).2 ops

/-- The abstract specification: point-wise function update, skipped exactly when
the model reports `nomem`. -/
def spec : Map → (Nat → Int) → List Op → (Nat → Int)
  | _, f, [] => f
  | m, f, .set addr r ok :: ops =>
    let res := mapSet m addr r ok
    let f' := if res.1 = .ok then (fun a => if addr ≤ a ∧ a ≤ addr + r.endoff then r.meth else f a) else f
    spec res.2 f' ops

theorem set_step (m : Map) (h : WF m) (addr : Nat) (r : Range) (hr : addr + r.endoff < W)
    (ok : Bool) (f : Nat → Int) (hf : ∀ a, a < W → f a = den m 0 a) :
    WF (mapSet m addr r ok).2 ∧ ∀ a, a < W →
      (if (mapSet m addr r ok).1 = .ok
        then (fun a => if addr ≤ a ∧ a ≤ addr + r.endoff then r.meth else f a) else f) a
        = den (mapSet m addr r ok).2 0 a := by
  by_cases e : mapSet m addr r ok = mapSet m addr r true
  · rw [e]
    refine ⟨Or.inr (set_wf m h addr r hr).2, fun a ha => ?_⟩
    rw [if_pos (set_ok m h addr r hr), set_den m h addr r hr a ha, hf a ha]
  · cases ok with
    | true => exact absurd rfl e
    | false =>
      rcases set_nomem m addr r with e' | e'
      · rw [e']; exact ⟨h, fun a ha => by rw [if_neg (by simp)]; exact hf a ha⟩
      · exact absurd e' e

/-- For every history of guarded sets with arbitrary allocation outcomes,
starting from any well-formed map (in particular the empty one), the map stays
well-formed and denotes the fold of point-wise updates. -/
theorem history (m : Map) (h : WF m) (ops : List Op) (hg : ∀ o ∈ ops, o.guarded) :
    WF (run m ops) ∧ ∀ a, a < W → den (run m ops) 0 a = spec m (fun a => den m 0 a) ops a := by
  suffices H : ∀ (ops : List Op) (m : Map) (f : Nat → Int), WF m →
      (∀ a, a < W → f a = den m 0 a) → (∀ o ∈ ops, o.guarded) →
      WF (run m ops) ∧ ∀ a, a < W → den (run m ops) 0 a = spec m f ops a from
    H ops m (fun a => den m 0 a) h (fun _ _ => rfl) hg
  intro ops
  induction ops with
  | nil => intro m f h hf _; exact ⟨h, fun a ha => (hf a ha).symm⟩
  | cons o ops ih =>
    intro m f h hf hg
    cases o with
    | set addr r ok =>
      have hs := set_step m h addr r (hg (.set addr r ok) (List.mem_cons_self ..)) ok f hf
      exact ih _ _ hs.1 hs.2 fun o ho => hg o (List.mem_cons_of_mem _ ho)

/-! ### Non-vacuity -/
example : WF ([] : Map) := Or.inl rfl
example : WF [⟨0xfff, 1⟩, ⟨W - 0x1000 - 1, NONE⟩] := by
  right; simp [total, W]
example : (mapSet [⟨0xfff, 1⟩, ⟨W - 0x1000 - 1, NONE⟩] 0x800 ⟨0xfff, 2⟩ true) =
    (.ok, [⟨0x7ff, 1⟩, ⟨0xfff, 2⟩, ⟨W - 0x1800 - 1, NONE⟩]) := by decide


/-!
## Layout tables (`sys_set_layout`): a successful call has made every range assignment

`setLayout` puts a table of regions into the map of a slot; a region with the direct action
also puts `[0, last-first] -> RDIRECT` into the reverse direct map.  Allocation outcomes are an
arbitrary stream.  The call reports `ok` or `nomem` (and `nomem` only if the stream contains a
failure); after `ok` *both* maps exist, are well-formed and denote the fold of the point-wise
updates of the table: no assignment has been skipped.
-/
/-- function view of a map slot (`NULL` = nothing translated) -/
def denOpt : Option Map → Nat → Int
  | none, _ => NONE
  | some m, a => den m 0 a

def WFOpt : Option Map → Prop
  | none => True
  | some m => WF m

def regionGuarded (g : LRegion) : Prop := g.first ≤ g.last ∧ g.last < W

/-- point-wise specification of the target map -/
def layoutSpec : (Nat → Int) → List LRegion → (Nat → Int)
  | f, [] => f
  | f, g :: rest => layoutSpec (fun a => if g.first ≤ a ∧ a ≤ g.last then g.meth else f a) rest

/-- point-wise specification of the reverse direct map -/
def revSpec : (Nat → Int) → List LRegion → (Nat → Int)
  | f, [] => f
  | f, g :: rest =>
    revSpec (if g.direct then (fun a => if a ≤ g.last - g.first then RDIRECT else f a) else f) rest

/-! ### Helper lemmas

Results of the model functions are always named by an equation `f … = (st, m', al')`; projections of
an application of `mapSet`/`setAll`/`layoutLoop` to a literal `[]` are never handed to `dsimp`
(reducing them would evaluate the whole of `addrxlat_map_set` symbolically). -/

theorem range_endoff (g : LRegion) (hg : regionGuarded g) :
    (g.last + W - g.first) % W = g.last - g.first :=
  Kdf.Lemmas.add_sub_mod hg.1 hg.2

/-- One range assignment on the allocation stream. -/
theorem mapSetS_spec (m : Map) (h : WF m) (addr : Nat) (r : Range) (hr : addr + r.endoff < W)
    (al : List Bool) :
    (∃ al', mapSetS m addr r al = (.ok, (mapSet m addr r true).2, al') ∧ (false ∈ al' → false ∈ al)) ∨
      (∃ m' al', mapSetS m addr r al = (.nomem, m', al') ∧ false ∈ al) := by
  have hok : ∀ al' : List Bool, ((mapSet m addr r true).1, (mapSet m addr r true).2, al')
      = (Status.ok, (mapSet m addr r true).2, al') := fun al' => by rw [set_ok m h addr r hr]
  unfold mapSetS
  split
  · cases al with
    | nil => exact Or.inl ⟨[], hok [], id⟩
    | cons b bs =>
      cases b with
      | true => exact Or.inl ⟨bs, hok bs, List.mem_cons_of_mem _⟩
      | false =>
        simp only [takeAlloc]
        rcases set_nomem m addr r with e | e
        · exact Or.inr ⟨m, bs, by rw [e], List.mem_cons_self ..⟩
        · exact Or.inl ⟨bs, by rw [e]; exact hok bs, List.mem_cons_of_mem _⟩
  · exact Or.inl ⟨al, hok al, id⟩

theorem setAll_one (m : Map) (addr : Nat) (r : Range) (al : List Bool) :
    setAll m [(addr, r)] al =
      if (mapSetS m addr r al).1 = .ok then (.ok, (mapSetS m addr r al).2.1, (mapSetS m addr r al).2.2)
      else mapSetS m addr r al := by
  simp only [setAll]

theorem slotNew_some (m : Map) (al : List Bool) : slotNew (some m) al = (some m, al) := rfl
theorem slotNew_nil : slotNew none [] = (some [], []) := rfl
theorem slotNew_true (bs : List Bool) : slotNew none (true :: bs) = (some [], bs) := rfl
theorem slotNew_false (bs : List Bool) : slotNew none (false :: bs) = (none, bs) := rfl

/-- `internal_map_new` on a slot: a (possibly new, empty) map with the same function view, or a
failed allocation. -/
theorem slotNew_spec (s : Option Map) (hs : WFOpt s) (al : List Bool) :
    (∃ m al', slotNew s al = (some m, al') ∧ WF m ∧ (∀ a, den m 0 a = denOpt s a) ∧
        (false ∈ al' → false ∈ al)) ∨
      (∃ al', slotNew s al = (none, al') ∧ false ∈ al) := by
  cases s with
  | some m => exact Or.inl ⟨m, al, rfl, hs, fun _ => rfl, fun x => x⟩
  | none =>
    cases al with
    | nil => exact Or.inl ⟨[], [], rfl, Or.inl rfl, fun _ => rfl, fun x => x⟩
    | cons b bs =>
      cases b with
      | true =>
        exact Or.inl ⟨[], bs, rfl, Or.inl rfl, fun _ => rfl, fun x => List.mem_cons_of_mem _ x⟩
      | false => exact Or.inr ⟨bs, rfl, List.mem_cons_self ..⟩

theorem layoutPlain_some (rev : Option Map) (m : Map) (al al' : List Bool) (regs : List (Nat × Range))
    (h : slotNew rev al = (some m, al')) :
    layoutPlain rev regs al = ((setAll m regs al').1, some (setAll m regs al').2.1, (setAll m regs al').2.2) := by
  unfold layoutPlain; rw [h]

theorem layoutPlain_none (rev : Option Map) (al al' : List Bool) (regs : List (Nat × Range))
    (h : slotNew rev al = (none, al')) :
    layoutPlain rev regs al = (.nomem, none, al') := by
  unfold layoutPlain; rw [h]

/-- The nested call of `act_direct`. -/
theorem layoutPlain_rev (rev : Option Map) (hr : WFOpt rev) (g : LRegion) (hg : regionGuarded g)
    (al : List Bool) :
    (∃ r' al', layoutPlain rev g.revTable al = (.ok, some r', al') ∧ r' ≠ [] ∧ WF r' ∧
        (∀ a, a < W → den r' 0 a = if a ≤ g.last - g.first then RDIRECT else denOpt rev a) ∧
        (false ∈ al' → false ∈ al)) ∨
      (∃ r' al', layoutPlain rev g.revTable al = (.nomem, r', al') ∧ false ∈ al) := by
  have he := range_endoff g hg
  have hlt : 0 + (⟨(g.last + W - g.first) % W, RDIRECT⟩ : Range).endoff < W := by
    show 0 + (g.last + W - g.first) % W < W
    rw [he]; have := hg.2; omega
  rcases slotNew_spec rev hr al with ⟨m, al1, e, hm, hden, hal⟩ | ⟨al1, e, hal⟩
  · obtain ⟨-, hne', ht', hden'⟩ := mapSet_ok m hm 0 _ hlt
    rw [layoutPlain_some _ _ _ _ _ e, LRegion.revTable, setAll_one]
    rcases mapSetS_spec m hm 0 _ hlt al1 with ⟨al2, e2, h3⟩ | ⟨m', al2, e2, h3⟩
    · rw [e2]
      dsimp only
      rw [if_pos rfl]
      refine Or.inl ⟨_, al2, rfl, hne', Or.inr ht', fun a _ => ?_, fun x => hal (h3 x)⟩
      rw [hden' a, hden a]
      show (if 0 ≤ a ∧ a ≤ 0 + (g.last + W - g.first) % W then RDIRECT else denOpt rev a) = _
      rw [he]
      simp
    · rw [e2]
      dsimp only
      rw [if_neg nofun]
      exact Or.inr ⟨some m', al2, rfl, hal h3⟩
  · rw [layoutPlain_none _ _ _ _ e]
    exact Or.inr ⟨none, al1, rfl, hal⟩

theorem layoutLoop_cons (m : Map) (rev : Option Map) (g : LRegion) (rest : List LRegion)
    (al : List Bool) (st1 : Status) (rev1 : Option Map) (al1 : List Bool)
    (hp : (if g.direct then layoutPlain rev g.revTable al else (.ok, rev, al)) = (st1, rev1, al1)) :
    layoutLoop m rev (g :: rest) al =
      if st1 = .ok then
        if (mapSetS m g.first g.range al1).1 = .ok then
          layoutLoop (mapSetS m g.first g.range al1).2.1 rev1 rest (mapSetS m g.first g.range al1).2.2
        else ((mapSetS m g.first g.range al1).1, (mapSetS m g.first g.range al1).2.1, rev1,
          (mapSetS m g.first g.range al1).2.2)
      else (st1, m, rev1, al1) := by
  rw [layoutLoop]
  simp only [hp]

/-- The action of a region: `act_direct` for a direct region, nothing otherwise. -/
theorem action_spec (rev : Option Map) (hrv : WFOpt rev) (g : LRegion) (hgg : regionGuarded g)
    (al : List Bool) (fr : Nat → Int) (hfr : ∀ a, a < W → fr a = denOpt rev a) :
    ∃ st1 rev1 al1,
      (if g.direct then layoutPlain rev g.revTable al else (.ok, rev, al)) = (st1, rev1, al1) ∧
      (false ∈ al1 → false ∈ al) ∧
      ((st1 = .ok ∧ WFOpt rev1 ∧
          (∀ a, a < W → (if g.direct = true then
              (fun a => if a ≤ g.last - g.first then RDIRECT else fr a) else fr) a = denOpt rev1 a) ∧
          ((g.direct = true ∨ ∃ r0, rev = some r0 ∧ r0 ≠ []) → ∃ r', rev1 = some r' ∧ r' ≠ [])) ∨
        (st1 = .nomem ∧ false ∈ al)) := by
  by_cases hd : g.direct = true
  · rw [if_pos hd]
    rcases layoutPlain_rev rev hrv g hgg al with ⟨r', al1, e, h1, h2, h3, h4⟩ | ⟨r', al1, e, h4⟩
    · refine ⟨_, _, _, e, h4, Or.inl ⟨rfl, h2, fun a ha => ?_, fun _ => ⟨r', rfl, h1⟩⟩⟩
      rw [if_pos hd]
      show (if a ≤ g.last - g.first then RDIRECT else fr a) = den r' 0 a
      rw [h3 a ha, hfr a ha]
    · exact ⟨_, _, _, e, fun _ => h4, Or.inr ⟨rfl, h4⟩⟩
  · rw [if_neg hd]
    refine ⟨_, _, _, rfl, id, Or.inl ⟨rfl, hrv, fun a ha => ?_, ?_⟩⟩
    · rw [if_neg hd]; exact hfr a ha
    · rintro (h | h)
      · exact absurd h hd
      · exact h

/-- The region loop: after `ok` both maps denote the fold of the table; `nomem` only after a failed
allocation.  `fm`, `fr` are any functions agreeing with the maps below `W`. -/
theorem layoutLoop_spec : ∀ (regs : List LRegion) (m : Map) (rev : Option Map) (al : List Bool)
    (fm fr : Nat → Int), WF m → WFOpt rev → (∀ a, a < W → fm a = den m 0 a) →
    (∀ a, a < W → fr a = denOpt rev a) → (∀ g ∈ regs, regionGuarded g) →
    (∃ m' rev' al', layoutLoop m rev regs al = (.ok, m', rev', al') ∧ WF m' ∧
        (∀ a, a < W → den m' 0 a = layoutSpec fm regs a) ∧ WFOpt rev' ∧
        (∀ a, a < W → denOpt rev' a = revSpec fr regs a) ∧
        (((∃ g ∈ regs, g.direct = true) ∨ (∃ r0, rev = some r0 ∧ r0 ≠ [])) →
          ∃ r', rev' = some r' ∧ r' ≠ [])) ∨
      (∃ m' rev' al', layoutLoop m rev regs al = (.nomem, m', rev', al') ∧ false ∈ al) := by
  intro regs
  induction regs with
  | nil =>
    intro m rev al fm fr hm hrv hfm hfr _
    refine Or.inl ⟨m, rev, al, rfl, hm, fun a ha => (hfm a ha).symm, hrv, fun a ha => (hfr a ha).symm, ?_⟩
    rintro (⟨g, hg, _⟩ | ⟨r0, h1, h2⟩)
    · cases hg
    · exact ⟨r0, h1, h2⟩
  | cons g rest ih =>
    intro m rev al fm fr hm hrv hfm hfr hg
    have hgg := hg g (List.mem_cons_self ..)
    have hg' : ∀ g' ∈ rest, regionGuarded g' := fun g' h => hg g' (List.mem_cons_of_mem _ h)
    have he := range_endoff g hgg
    have hend : g.first + g.range.endoff = g.last := by
      show g.first + (g.last + W - g.first) % W = g.last
      rw [he]; have := hgg.1; omega
    have hlt : g.first + g.range.endoff < W := by rw [hend]; exact hgg.2
    obtain ⟨st1, rev1, al1, hp, hal1, hres⟩ := action_spec rev hrv g hgg al fr hfr
    rw [layoutLoop_cons m rev g rest al _ _ _ hp]
    rcases hres with ⟨rfl, hrv1, hfr1, hsome⟩ | ⟨rfl, hfalse⟩
    · rw [if_pos rfl]
      rcases mapSetS_spec m hm g.first g.range hlt al1 with ⟨al2, e, h3⟩ | ⟨m', al2, e, h3⟩
      · rw [e]
        dsimp only
        rw [if_pos rfl]
        obtain ⟨-, -, ht', hden'⟩ := mapSet_ok m hm g.first g.range hlt
        have hfm' : ∀ a, a < W →
            (fun a => if g.first ≤ a ∧ a ≤ g.last then g.meth else fm a) a =
              den (mapSet m g.first g.range true).2 0 a := by
          intro a ha
          rw [hden' a, hend, ← hfm a ha]
          rfl
        rcases ih (mapSet m g.first g.range true).2 rev1 al2 _ _ (Or.inr ht') hrv1 hfm' hfr1 hg' with
          ⟨m', rev', al', e', k1, k2, k3, k4, k5⟩ | ⟨m', rev', al', e', k1⟩
        · refine Or.inl ⟨m', rev', al', e', k1, k2, k3, k4, ?_⟩
          rintro (⟨g', hg1, hg2⟩ | h)
          · rcases List.mem_cons.mp hg1 with rfl | hg1
            · exact k5 (Or.inr (hsome (Or.inl hg2)))
            · exact k5 (Or.inl ⟨g', hg1, hg2⟩)
          · exact k5 (Or.inr (hsome (Or.inr h)))
        · exact Or.inr ⟨m', rev', al', e', hal1 (h3 k1)⟩
      · rw [e]
        dsimp only
        rw [if_neg nofun]
        exact Or.inr ⟨m', rev1, al2, rfl, hal1 h3⟩
    · rw [if_neg nofun]
      exact Or.inr ⟨m, rev1, al1, rfl, hfalse⟩

theorem setLayout_some (s : Sys) (regs : List LRegion) (al : List Bool) (m : Map) (al' : List Bool)
    (h : slotNew s.map al = (some m, al')) (st : Status) (m' : Map) (rev' : Option Map)
    (al'' : List Bool) (hl : layoutLoop m s.rev regs al' = (st, m', rev', al'')) :
    setLayout s regs al = (st, ⟨some m', rev'⟩) := by
  unfold setLayout
  rw [h]
  dsimp only
  rw [hl]

theorem setLayout_none (s : Sys) (regs : List LRegion) (al : List Bool) (al' : List Bool)
    (h : slotNew s.map al = (none, al')) : setLayout s regs al = (.nomem, s) := by
  unfold setLayout
  rw [h]

/-- The whole call. -/
theorem setLayout_spec (s : Sys) (hm : WFOpt s.map) (hr : WFOpt s.rev) (regs : List LRegion)
    (hg : ∀ g ∈ regs, regionGuarded g) (al : List Bool) :
    (∃ m' rev', setLayout s regs al = (.ok, ⟨some m', rev'⟩) ∧ WF m' ∧
        (∀ a, a < W → den m' 0 a = layoutSpec (denOpt s.map) regs a) ∧ WFOpt rev' ∧
        (∀ a, a < W → denOpt rev' a = revSpec (denOpt s.rev) regs a) ∧
        ((∃ g ∈ regs, g.direct = true) → ∃ r', rev' = some r' ∧ r' ≠ [])) ∨
      ((setLayout s regs al).1 = .nomem ∧ false ∈ al) := by
  rcases slotNew_spec s.map hm al with ⟨m, al1, e, hwf, hden, hal⟩ | ⟨al1, e, hal⟩
  · rcases layoutLoop_spec regs m s.rev al1 (denOpt s.map) (denOpt s.rev) hwf hr
        (fun a _ => (hden a).symm) (fun _ _ => rfl) hg with
      ⟨m', rev', al2, e2, k1, k2, k3, k4, k5⟩ | ⟨m', rev', al2, e2, k1⟩
    · rw [setLayout_some s regs al m al1 e _ _ _ _ e2]
      exact Or.inl ⟨m', rev', rfl, k1, k2, k3, k4, fun h => k5 (Or.inl h)⟩
    · rw [setLayout_some s regs al m al1 e _ _ _ _ e2]
      exact Or.inr ⟨rfl, hal k1⟩
  · rw [setLayout_none s regs al al1 e]
    exact Or.inr ⟨rfl, hal⟩

/-- The call reports `ok`, or `nomem` and then some allocation of the stream did fail. -/
theorem layout_status (s : Sys) (hm : WFOpt s.map) (hr : WFOpt s.rev) (regs : List LRegion)
    (hg : ∀ g ∈ regs, regionGuarded g) (al : List Bool) :
    (setLayout s regs al).1 = .ok ∨ ((setLayout s regs al).1 = .nomem ∧ false ∈ al) := by
  rcases setLayout_spec s hm hr regs hg al with ⟨m', rev', e, _⟩ | h
  · rw [e]; exact Or.inl rfl
  · exact Or.inr h

/-- After `ok` the target map exists, is well-formed and denotes the whole table. -/
theorem layout_ok_map (s : Sys) (hm : WFOpt s.map) (hr : WFOpt s.rev) (regs : List LRegion)
    (hg : ∀ g ∈ regs, regionGuarded g) (al : List Bool) (h : (setLayout s regs al).1 = .ok) :
    ∃ m', (setLayout s regs al).2.map = some m' ∧ WF m' ∧
      ∀ a, a < W → den m' 0 a = layoutSpec (denOpt s.map) regs a := by
  rcases setLayout_spec s hm hr regs hg al with ⟨m', rev', e, k1, k2, _⟩ | ⟨h1, _⟩
  · rw [e]; exact ⟨m', rfl, k1, k2⟩
  · exact absurd (h1.symm.trans h) nofun

/-- After `ok` the reverse direct map denotes the reverse of every direct region of the table
(in particular it exists as soon as the table has a direct region: see `layout_ok_rev_some`). -/
theorem layout_ok_rev (s : Sys) (hm : WFOpt s.map) (hr : WFOpt s.rev) (regs : List LRegion)
    (hg : ∀ g ∈ regs, regionGuarded g) (al : List Bool) (h : (setLayout s regs al).1 = .ok) :
    WFOpt (setLayout s regs al).2.rev ∧
      ∀ a, a < W → denOpt (setLayout s regs al).2.rev a = revSpec (denOpt s.rev) regs a := by
  rcases setLayout_spec s hm hr regs hg al with ⟨m', rev', e, _, _, k3, k4, _⟩ | ⟨h1, _⟩
  · rw [e]; exact ⟨k3, k4⟩
  · exact absurd (h1.symm.trans h) nofun

theorem layout_ok_rev_some (s : Sys) (hm : WFOpt s.map) (hr : WFOpt s.rev) (regs : List LRegion)
    (hg : ∀ g ∈ regs, regionGuarded g) (al : List Bool) (h : (setLayout s regs al).1 = .ok)
    (hd : ∃ g ∈ regs, g.direct = true) :
    ∃ r', (setLayout s regs al).2.rev = some r' ∧ r' ≠ [] := by
  rcases setLayout_spec s hm hr regs hg al with ⟨m', rev', e, _, _, _, _, k5⟩ | ⟨h1, _⟩
  · rw [e]; exact k5 hd
  · exact absurd (h1.symm.trans h) nofun

/-- Without a failing allocation the call succeeds. -/
theorem layout_no_fault (s : Sys) (hm : WFOpt s.map) (hr : WFOpt s.rev) (regs : List LRegion)
    (hg : ∀ g ∈ regs, regionGuarded g) (al : List Bool) (hal : false ∉ al) :
    (setLayout s regs al).1 = .ok := by
  rcases layout_status s hm hr regs hg al with h | ⟨_, h⟩
  · exact h
  · exact absurd h hal

/-! ### Non-vacuity: the ppc64-like table `[direct region, vmalloc region]` from empty slots -/
example : setLayout ⟨none, none⟩ [⟨0x1000, 0x1fff, 2, true⟩, ⟨0x4000, 0x4fff, 0, false⟩] [] =
    (.ok, ⟨some [⟨0xfff, NONE⟩, ⟨0xfff, 2⟩, ⟨0x1fff, NONE⟩, ⟨0xfff, 0⟩, ⟨W - 0x5000 - 1, NONE⟩],
           some [⟨0xfff, RDIRECT⟩, ⟨W - 0x1000 - 1, NONE⟩]⟩) := by decide
/-- the allocation of the reverse map fails (2nd request): the call fails -/
example : (setLayout ⟨none, none⟩ [⟨0x1000, 0x1fff, 2, true⟩] [true, false]).1 = .nomem := by decide
/-- the `realloc` inside the nested assignment fails (3rd request): the call fails -/
example : (setLayout ⟨none, none⟩ [⟨0x1000, 0x1fff, 2, true⟩] [true, true, false]).1 = .nomem := by decide

end Kdf.Props.C10
