import Kdf.Model.Derived
/-! VMCOREINFO at the level of data: the value a text gives to a key (`lastVal`), `Store.put` then
`Store.find` (`find_put`), the keys `create_attr_path` refuses, and the splitter (lines at `'\n'`, rows at the
first `'='`).  The hooks themselves are in `DerivedTyped`. -/
namespace Kdf.Lemmas.DerivedVmci
open Kdf.Model.Derived

/-- the value the text gives to a key: the last row with that key -/
def lastVal (rows : List Row) (k : Bytes) : Option Bytes :=
  (rows.reverse.find? (·.key == k)).map (·.val)

theorem lastVal_cons (r : Row) (t : List Row) (k : Bytes) :
    lastVal (r :: t) k = match lastVal t k with
      | some v => some v
      | none => if r.key = k then some r.val else none := by
  unfold lastVal
  rw [List.reverse_cons, List.find?_append]
  cases List.find? (fun x => x.key == k) t.reverse with
  | some x => simp
  | none =>
    by_cases h : r.key = k <;> simp [h]

theorem lastVal_some_mem (rows : List Row) (k v : Bytes) (h : lastVal rows k = some v) :
    ∃ r ∈ rows, r.key = k := by
  unfold lastVal at h
  cases hf : List.find? (fun x => x.key == k) rows.reverse with
  | none => rw [hf] at h; cases h
  | some x =>
    have h1 := List.find?_some hf
    have h2 := List.mem_of_find?_eq_some hf
    exact ⟨x, List.mem_reverse.mp h2, by simpa using h1⟩

private theorem find?_map_put_self {α} (k : Bytes) (a : α) : ∀ s : Store α, s.any (·.1 == k) = true →
    (s.map (fun e => if e.1 == k then (k, a) else e)).find? (·.1 == k) = some (k, a)
  | [], h => by cases h
  | e :: t, h => by
    rw [List.map_cons, List.find?_cons]
    by_cases he : (e.1 == k) = true
    · rw [if_pos he, beq_self_eq_true]
    · rw [List.any_cons, Bool.or_eq_true] at h
      rw [if_neg he, Bool.eq_false_iff.mpr he]
      exact find?_map_put_self k a t (h.resolve_left he)

theorem find_put_self {α} (s : Store α) (k : Bytes) (a : α) : (s.put k a).find k = some a := by
  unfold Store.put Store.find
  split
  · rename_i hany
    rw [find?_map_put_self k a s hany]
    rfl
  · rename_i hany
    have hs : s.find? (·.1 == k) = none :=
      List.find?_eq_none.mpr fun x hx hxk => hany (List.any_eq_true.mpr ⟨x, hx, hxk⟩)
    rw [List.find?_append, hs, List.find?_cons, beq_self_eq_true]
    rfl

private theorem find?_map_put {α} (k k' : Bytes) (a : α) (hne : k ≠ k') (s : Store α) :
    (s.map (fun e => if e.1 == k then (k, a) else e)).find? (·.1 == k') = s.find? (·.1 == k') := by
  induction s with
  | nil => rfl
  | cons e t ih =>
    rw [List.map_cons, List.find?_cons, List.find?_cons, ih]
    by_cases he : e.1 = k
    · have hb : (k == k') = false := by simp [hne]
      simp [he, hb]
    · simp [he]

theorem find_put_ne {α} (s : Store α) (k k' : Bytes) (a : α) (hne : k ≠ k') :
    (s.put k a).find k' = s.find k' := by
  unfold Store.put Store.find
  split
  · rw [find?_map_put k k' a hne]
  · rw [List.find?_append]
    simp [hne]

theorem find_put {α} (s : Store α) (k k' : Bytes) (a : α) :
    (s.put k a).find k' = if k = k' then some a else s.find k' := by
  split
  · rename_i h; subst h; exact find_put_self _ _ _
  · rename_i h; exact find_put_ne _ _ _ _ h

theorem slotOf_dot {α} (s : Store α) (k : Bytes) (hk : leadingDot k = true) :
    slotOf s k = .blocked := by
  unfold slotOf
  simp [hk]

theorem vline_clearRaw (c : Ctx) (k : Bytes) : (vline (clearRaw c) k).1 = .nodata := by
  unfold vline clearRaw
  split
  · rfl
  · simp [Store.find]

theorem vsym_clearRaw (c : Ctx) (k : Bytes) : (vsym (clearRaw c) k).1 = .nodata := by
  unfold vsym clearRaw
  split
  · rfl
  · simp [Store.find]

theorem not_mem_takeWhile_ne (c : Nat) (l : Bytes) : c ∉ l.takeWhile (· != c) := fun h =>
  -- every element of the prefix passes the test `· != c`
  have := List.all_eq_true.mp (List.all_takeWhile (p := (· != c)) (l := l)) c h
  absurd rfl (bne_iff_ne.mp this)

/-- a string either has no `c`, or splits at its first `c` -/
theorem split_at_first (c : Nat) (l : Bytes) :
    (l.dropWhile (· != c) = [] ∧ l.takeWhile (· != c) = l) ∨
    ∃ t, l.dropWhile (· != c) = c :: t ∧ l.takeWhile (· != c) ++ c :: t = l := by
  have h := List.takeWhile_append_dropWhile (p := (· != c)) (l := l)
  cases hd : l.dropWhile (· != c) with
  | nil =>
    rw [hd, List.append_nil] at h
    exact Or.inl ⟨rfl, h⟩
  | cons x t =>
    have hx := List.head_dropWhile_not (· != c) (l := l) (by rw [hd]; exact List.cons_ne_nil _ _)
    simp [hd] at hx
    rw [hd, hx] at h
    exact Or.inr ⟨t, by rw [hx], h⟩

theorem rowOfLine_key_append_val (l : Bytes) :
    61 ∉ (rowOfLine l).key ∧
    ((l = (rowOfLine l).key ∧ (rowOfLine l).val = []) ∨ l = (rowOfLine l).key ++ [61] ++ (rowOfLine l).val) := by
  unfold rowOfLine
  refine ⟨not_mem_takeWhile_ne 61 l, ?_⟩
  rcases split_at_first 61 l with ⟨hd, h⟩ | ⟨t, hd, h⟩
  · exact Or.inl ⟨h.symm, by rw [hd]; rfl⟩
  · refine Or.inr ?_
    rw [hd]
    simpa using h.symm

theorem splitLines_nil (f : Nat) : splitLines f [] = [] := by
  cases f <;> rfl

theorem splitLines_succ (f : Nat) (s : Bytes) (hs : s ≠ []) :
    splitLines (f + 1) s =
      s.takeWhile (· != 10) :: splitLines f ((s.dropWhile (· != 10)).drop 1) := by
  cases s with
  | nil => exact absurd rfl hs
  | cons a t => rfl

/-- no piece contains a newline, and the pieces, each closed by a newline, give back the text —
with one newline too many when the text does not end in one -/
theorem flatMap_splitLines : ∀ (f : Nat) (s : Bytes), s.length < f →
    (∀ l ∈ splitLines f s, 10 ∉ l) ∧
    ((splitLines f s).flatMap (· ++ [10]) = s ∨ (splitLines f s).flatMap (· ++ [10]) = s ++ [10]) := by
  intro f
  induction f with
  | zero => intro s h; exact absurd h (Nat.not_lt_zero _)
  | succ f ih =>
    intro s hlen
    by_cases hs : s = []
    · subst hs
      exact ⟨fun l hl => (nomatch hl), Or.inl rfl⟩
    · rw [splitLines_succ f s hs]
      have hnm := not_mem_takeWhile_ne 10 s
      rcases split_at_first 10 s with ⟨hd, h⟩ | ⟨rest, hd, h⟩
      · rw [h] at hnm ⊢
        rw [hd, List.drop_nil, splitLines_nil]
        refine ⟨fun l hl => ?_, Or.inr (List.append_nil _)⟩
        rw [List.mem_singleton.mp hl]
        exact hnm
      · generalize s.takeWhile (· != 10) = tw at h hnm ⊢
        subst h
        rw [hd]
        have hlr : rest.length < f := by
          rw [List.length_append, List.length_cons] at hlen
          omega
        obtain ⟨ih1, ih2⟩ := ih rest hlr
        refine ⟨fun l hl => ?_, ?_⟩
        · rcases List.mem_cons.mp hl with rfl | hl
          · exact hnm
          · exact ih1 l hl
        · rw [List.flatMap_cons, List.drop_succ_cons, List.drop_zero]
          rcases ih2 with e | e <;> rw [e]
          · exact Or.inl (List.append_assoc _ _ _)
          · exact Or.inr (by simp)

theorem flatMap_append_eq_intercalate (sep : Nat) : ∀ ls : List Bytes, ls ≠ [] →
    ls.flatMap (· ++ [sep]) = List.intercalate [sep] ls ++ [sep]
  | [l], _ => by simp [List.intercalate]
  | l :: l' :: t, _ => by
    rw [List.flatMap_cons, flatMap_append_eq_intercalate sep (l' :: t) (List.cons_ne_nil _ _)]
    simp [List.intercalate]

theorem intercalate_splitLines (raw : Bytes) (hne : raw ≠ []) :
    List.intercalate [10] (splitLines (raw.length + 1) raw) = raw ∨
      List.intercalate [10] (splitLines (raw.length + 1) raw) ++ [10] = raw := by
  have h2 := (flatMap_splitLines (raw.length + 1) raw (Nat.lt_succ_self _)).2
  have hp : splitLines (raw.length + 1) raw ≠ [] := by
    intro e
    rw [e] at h2
    exact h2.elim (fun e => hne e.symm)
      (fun e => List.append_ne_nil_of_right_ne_nil _ (List.cons_ne_nil _ _) e.symm)
  rw [flatMap_append_eq_intercalate 10 _ hp] at h2
  exact h2.elim Or.inr fun e => Or.inl (List.append_cancel_right e)

end Kdf.Lemmas.DerivedVmci
