import Kdf.Model.Hist
/-! The four-slot read cache of libaddrxlat: its invariant, and `get_cache_buf` on a hit and on a miss. -/
namespace Kdf.Lemmas.Hist
open Kdf.Model.Hist

/-- the callback is a function of the page: a buffer covers the address it was
asked for, and every address it covers yields the same buffer -/
def GCoh {V E : Type} (g : Nat → Nat → Except E (Buffer V)) : Prop :=
  ∀ as a b, a < W → g as a = .ok b →
    b.addr < W ∧ (a + W - b.addr % W) % W < b.size ∧
    ∀ a', a' < W → (a' + W - b.addr % W) % W < b.size → g as a' = .ok b

/-- four slots, the MRU chain permutes their indices, a non-empty slot holds what the callback
returns for its start address -/
def RInv {V E : Type} (g : Nat → Nat → Except E (Buffer V)) (rc : RCache V) : Prop :=
  rc.slots.length = nslots ∧ rc.order.Perm (List.range nslots) ∧
  ∀ s ∈ rc.slots, s.size ≠ 0 → s.addr < W ∧ ∃ v, s.data = some v ∧ g s.as s.addr = .ok ⟨s.addr, s.size, v⟩

/-- addresses are 64-bit -/
def opWf : ROp → Prop
  | .get _ a => a < W
  | .bury _ a => a < W

theorem forall_mem_set {α : Type} {P : α → Prop} {l : List α} (h : ∀ x ∈ l, P x) {n : α} (hn : P n)
    (i : Nat) : ∀ x ∈ l.set i n, P x :=
  fun x hx => (List.mem_or_eq_of_mem_set hx).elim (h x) (fun e => e ▸ hn)

theorem order_mem_iff {order : List Nat} (hp : order.Perm (List.range nslots)) {i : Nat} :
    i ∈ order ↔ i < nslots := by
  rw [hp.mem_iff, List.mem_range]

theorem touch_perm {order : List Nat} (hp : order.Perm (List.range nslots)) {i : Nat}
    (hi : i < nslots) : (touch order i).Perm (List.range nslots) :=
  (List.perm_cons_erase ((order_mem_iff hp).mpr hi)).symm.trans hp

theorem buryOrd_perm {order : List Nat} (hp : order.Perm (List.range nslots)) {i : Nat}
    (hi : i < nslots) : (buryOrd order i).Perm (List.range nslots) := by
  unfold buryOrd
  exact (List.perm_append_comm.trans (List.perm_cons_erase ((order_mem_iff hp).mpr hi)).symm).trans hp

theorem rcache_find_some {V : Type} {rc : RCache V} {as a i : Nat} (h : rc.find as a = some i) :
    i < rc.slots.length ∧ ∃ s, rc.slots[i]? = some s ∧ s.covers as a = true := by
  unfold RCache.find at h
  rw [List.find?_range_eq_some] at h
  obtain ⟨h1, h2, _⟩ := h
  rw [List.mem_range] at h2
  refine ⟨h2, ?_⟩
  rw [List.getElem?_eq_getElem h2] at h1 ⊢
  exact ⟨_, rfl, h1⟩

theorem covers_iff {V : Type} (s : Slot V) (as a : Nat) :
    s.covers as a = true ↔ (a + W - s.addr % W) % W < s.size ∧ s.as = as := by
  unfold Slot.covers
  rw [Bool.and_eq_true, decide_eq_true_iff, decide_eq_true_iff]

variable {V E : Type} (g : Nat → Nat → Except E (Buffer V)) (rc : RCache V)

theorem getCacheBuf_hit {as a i : Nat} {s : Slot V} {v : V} (hf : rc.find as a = some i) (hs : rc.slots[i]? = some s)
    (hd : s.data = some v) :
    getCacheBuf g rc as a = ({ rc with order := touch rc.order i }, [], .ok ⟨s.addr, s.size, v⟩) := by
  simp only [getCacheBuf, hf, hs, hd]

theorem getCacheBuf_miss_ok {as a l : Nat} {old : Slot V} {b : Buffer V} (hf : rc.find as a = none)
    (hl : rc.order.getLast? = some l) (hs : rc.slots[l]? = some old) (hg : g as a = .ok b) :
    getCacheBuf g rc as a =
      ({ slots := rc.slots.set l ⟨as, b.addr, b.size, some b.data⟩, order := touch rc.order l },
        if old.size ≠ 0 then [old] else [], .ok b) := by
  simp only [getCacheBuf, hf, hl, hs, hg]

theorem getCacheBuf_miss_err {as a l : Nat} {old : Slot V} {e : E} (hf : rc.find as a = none)
    (hl : rc.order.getLast? = some l) (hs : rc.slots[l]? = some old) (hg : g as a = .error e) :
    getCacheBuf g rc as a =
      ({ rc with slots := rc.slots.set l ⟨as, a, 0, none⟩ }, if old.size ≠ 0 then [old] else [],
        .error (.cb e)) := by
  simp only [getCacheBuf, hf, hl, hs, hg]

end Kdf.Lemmas.Hist
