import Kdf.Lemmas.PgtStep
/-! C02: `walkLoop` follows `descend` once every level does (`StepSim`); the handlers do. -/
namespace Kdf.Lemmas.Pgt
open Kdf.Model.Pgt Kdf.Spec.ArchWalk Kdf.Model.PgtArch Kdf.Lemmas.PgtWalk

/-- what the model's `next_step` has to do for a given architectural decoding of the entry
(`2 ≤ r`: no table descriptor at the last level) -/
def SimRes (fields : List Nat) (va t r : Nat) (s1 : Step) : Desc → Except XStatus Step → Prop
  | .notPresent, res => res = .error .notpresent
  | .invalid, res => res = .error .invalid
  | .leaf a, res => ∃ s2, res = .ok s2 ∧ s2.remain = 1 ∧ s2.elemsz = 1 ∧ s2.base = ⟨a, t⟩ ∧
      idxAt s2 0 = va % 2^(spanBits fields r)
  | .table a, res => 2 ≤ r ∧ ∃ s2, res = .ok s2 ∧ s2.remain = r ∧ s2.elemsz = s1.elemsz ∧
      s2.idx = s1.idx ∧ s2.base = ⟨a, t⟩

/-- at every level the handler's outcome is the one `SimRes` prescribes for the decoding of the
entry it read -/
def StepSim (decode : Nat → Nat → Desc) (mem : Mem) (t pteMask : Nat) (pf : PagingForm)
    (sz va : Nat) : Prop :=
  ∀ r s1, 1 ≤ r → r < pf.fieldsz.length → s1.remain = r → IdxOK pf va s1.idx →
    match mem s1.base.as s1.base.addr sz with
    | .error e => nextStepPgt extra mem t pteMask pf s1 = .error e
    | .ok raw => SimRes pf.fieldsz va t r s1 (decode r (raw &&& ((W - 1) ^^^ pteMask)))
        (nextStepPgt extra mem t pteMask pf s1)

/-- the state after `--step->remain` and the address computation -/
def decr (s : Step) : Step :=
  { s with remain := s.remain - 1,
           base := { s.base with addr := (s.base.addr + idxAt s (s.remain - 1) * s.elemsz) % W } }

theorem walkLoop_succ (mem : Mem) (m : Meth) (fuel : Nat) (s : Step) (h : s.remain - 1 ≠ 0) :
    walkLoop extra mem m (fuel+1) s =
      match nextStep extra mem m (decr s) with
      | .error e => .error e
      | .ok s2 => walkLoop extra mem m fuel s2 := by
  rw [walkLoop]
  simp only [h, if_false]
  rfl

/-- `walkLoop` from a state with `r+1` levels left is `descend … r` from its table; the last level
(`r = 0`) is the byte offset into the page, hence `elemsz = 1` there -/
theorem walkLoop_descend (decode : Nat → Nat → Desc) (mem : Mem) (t : Nat) (root : FullAddr)
    (pteMask : Nat) (pf : PagingForm) (sz va : Nat)
    (hsim : StepSim decode mem t pteMask pf sz va) :
    ∀ r fuel s, r + 1 ≤ fuel → s.remain = r + 1 → r + 1 ≤ pf.fieldsz.length →
      s.elemsz = (if r = 0 then 1 else sz) → IdxOK pf va s.idx →
      (walkLoop extra mem (.pgt t root pteMask pf) fuel s).map (·.base) =
        descend decode mem pf.fieldsz sz t pteMask va r s.base := by
  intro r
  induction r with
  | zero =>
    intro fuel s hf hrem hn hsz hinv
    obtain ⟨fuel, rfl⟩ : ∃ f, fuel = f + 1 := ⟨fuel - 1, by omega⟩
    have hsz : s.elemsz = 1 := hsz
    have hi := hinv.2 0 hn
    rw [span_zero, Nat.pow_zero, Nat.div_one] at hi
    rw [walkLoop_last extra mem _ fuel s hrem, hsz, Nat.mul_one, idxAt, hi]
    rfl
  | succ r ih =>
    intro fuel s hf hrem hn hsz hinv
    obtain ⟨fuel, rfl⟩ : ∃ f, fuel = f + 1 := ⟨fuel - 1, by omega⟩
    rw [if_neg (Nat.succ_ne_zero r)] at hsz
    have hs := hsim (r+1) (decr s) (by omega) (by omega) (by show s.remain - 1 = _; omega)
      hinv
    have hb : (decr s).base = ⟨(s.base.addr +
        va / 2^(spanBits pf.fieldsz (r+1)) % 2^(pf.fieldsz.getD (r+1) 0) * sz) % W, s.base.as⟩ := by
      show FullAddr.mk ((s.base.addr + idxAt s (s.remain - 1) * s.elemsz) % W) _ = _
      rw [hrem, hsz, Nat.add_sub_cancel, idxAt, hinv.2 (r+1) (by omega)]
    simp only [hb] at hs
    rw [walkLoop_succ _ _ _ _ (by omega), descend]
    show Except.map _ (match nextStepPgt extra mem t pteMask pf (decr s) with
      | .error e => .error e | .ok s2 => walkLoop extra mem (.pgt t root pteMask pf) fuel s2) = _
    generalize nextStepPgt extra mem t pteMask pf (decr s) = next at hs ⊢
    generalize mem s.base.as _ sz = rd at hs ⊢
    cases rd with
    | error e => rw [show next = .error e from hs]; rfl
    | ok raw =>
      simp only [] at hs ⊢  -- the `match` on `.ok raw`
      generalize decode (r+1) (raw &&& ((W - 1) ^^^ pteMask)) = d at hs ⊢
      cases d with
      | notPresent | invalid => rw [show next = _ from hs]; rfl
      | table a =>
        obtain ⟨hr2, s2, h1, h2, h3, h4, h5⟩ := hs
        rw [h1]
        show Except.map _ (walkLoop _ _ _ fuel s2) = descend _ _ _ _ _ _ _ r ⟨a, t⟩
        rw [← h5]
        exact ih fuel s2 (by omega) h2 (by omega) (by rw [h3, if_neg (by omega)]; exact hsz) (h4 ▸ hinv)
      | leaf a =>
        obtain ⟨s2, h1, h2, h3, h4, h5⟩ := hs
        obtain ⟨fuel, rfl⟩ : ∃ f, fuel = f + 1 := ⟨fuel - 1, by omega⟩
        rw [h1]
        show Except.map _ (walkLoop _ _ _ (fuel+1) s2) = _
        rw [walkLoop_last extra mem _ fuel s2 h2, h3, h4, h5, Nat.mul_one]
        rfl

theorem stepSim_of_body {decode : Nat → Nat → Desc} {mem : Mem} {t pteMask : Nat} {pf : PagingForm}
    {sz va : Nat} {body : Step × Nat → Except XStatus Step}
    (hnext : ∀ s, nextStepPgt extra mem t pteMask pf s = readPte mem sz pteMask s >>= body)
    (hmask : pteMask < W)
    (hbody : ∀ s1 raw pte, 1 ≤ s1.remain → s1.remain < pf.fieldsz.length → IdxOK pf va s1.idx →
      mem s1.base.as s1.base.addr sz = .ok raw → pte = raw &&& ((W - 1) ^^^ pteMask) →
      SimRes pf.fieldsz va t s1.remain s1 (decode s1.remain pte) (body ({ s1 with raw := raw }, pte))) :
    StepSim decode mem t pteMask pf sz va := by
  intro r s1 hr1 hrn hrem hinv
  subst hrem
  rw [hnext, readPte]
  cases hm : mem s1.base.as s1.base.addr sz with
  | error e => rfl
  | ok raw =>
    rw [Nat.mod_eq_of_lt hmask]
    exact hbody s1 raw _ hr1 hrn hinv hm rfl

theorem simRes_huge {pf : PagingForm} {va t r : Nat} {s1 s' : Step} {a : Nat}
    (hrem : s'.remain = r) (h1 : 1 ≤ r) (hrn : r ≤ pf.fieldsz.length)
    (hinv : IdxOK pf va s'.idx) (hspan : spanBits pf.fieldsz pf.fieldsz.length ≤ 64)
    (hb : s'.base = ⟨a, t⟩) :
    SimRes pf.fieldsz va t r s1 (.leaf a) (.ok (hugePage pf s')) := by
  obtain ⟨h2, h3, h4, h5⟩ := hugePage_spec pf s' va r (Nat.zero_lt_of_lt hinv.1)
    (fun i hi => hinv.2 i (by omega)) hrem h1 (Nat.le_trans (span_mono _ hrn) hspan)
  exact ⟨_, rfl, h2, h3, by rw [h4, hb], h5⟩

theorem idxAt_zero {pf : PagingForm} {va : Nat} {s : Step} (hinv : IdxOK pf va s.idx)
    (hn : 1 ≤ pf.fieldsz.length) : idxAt s 0 = va % 2^(spanBits pf.fieldsz 1) := by
  have := hinv.2 0 hn
  rw [span_zero, Nat.pow_zero, Nat.div_one] at this
  rw [span_one]; exact this

theorem simRes_leafOrTable_leaf {pf : PagingForm} {va t r : Nat} {s1 s' : Step} {x a : Nat}
    (hrem : s'.remain = r) (h1 : r = 1) (hn : 1 ≤ pf.fieldsz.length) (hinv : IdxOK pf va s'.idx)
    (ha : a = x / 2^12 * 2^12) :
    SimRes pf.fieldsz va t r s1 (.leaf a) (.ok (leafOrTable s' t x)) := by
  subst h1 ha
  have e : leafOrTable s' t x = { s' with base := ⟨clearLow x 12, t⟩, elemsz := 1 } := by
    rw [leafOrTable, if_pos hrem]
  rw [e]
  exact ⟨_, rfl, hrem, rfl, rfl, idxAt_zero hinv hn⟩

theorem simRes_leafOrTable_table {fields : List Nat} {va t r : Nat} {s1 s' : Step} {x a : Nat}
    (hrem : s'.remain = r) (hr : 2 ≤ r) (he : s'.elemsz = s1.elemsz) (hi : s'.idx = s1.idx)
    (ha : a = x / 2^12 * 2^12) :
    SimRes fields va t r s1 (.table a) (.ok (leafOrTable s' t x)) := by
  subst ha
  have e : leafOrTable s' t x = { s' with base := ⟨clearLow x 12, t⟩ } := by
    rw [leafOrTable, if_neg (by omega)]
  rw [e]
  exact ⟨hr, _, rfl, hrem, he, hi, rfl⟩

theorem simRes_leafOrTable {pf : PagingForm} {va t : Nat} {s1 s' : Step} {x a : Nat}
    (hr : 1 ≤ s'.remain) (hn : 1 ≤ pf.fieldsz.length) (he : s'.elemsz = s1.elemsz) (hi : s'.idx = s1.idx)
    (hinv : IdxOK pf va s'.idx) (ha : a = x / 2^12 * 2^12) :
    SimRes pf.fieldsz va t s'.remain s1 (if s'.remain = 1 then .leaf a else .table a)
      (.ok (leafOrTable s' t x)) := by
  by_cases h1 : s'.remain = 1
  · rw [if_pos h1]; exact simRes_leafOrTable_leaf rfl h1 hn hinv ha
  · rw [if_neg h1]; exact simRes_leafOrTable_table rfl (by omega) he hi ha

section
variable (mem : Mem) (t pteMask : Nat) (pf : PagingForm) (va : Nat)

theorem stepSim_x86_64 (hfmt : pf.fmt = .x86_64) (hmask : pteMask < W)
    (hspan : spanBits pf.fieldsz pf.fieldsz.length ≤ 64) :
    StepSim decodeX86_64 mem t pteMask pf 8 va := by
  refine stepSim_of_body (fun s => by rw [nextStepPgt, hfmt]; rfl) hmask ?_
  intro s1 raw pte hr1 hrn hinv _ _
  simp only [decodeX86_64, testBit, Nat.pow_zero, Nat.div_one, Bool.not_eq_true',
    decide_eq_false_iff_not, decide_eq_true_eq]
  by_cases hp : pte % 2 = 1
  case neg => rw [if_pos (by omega), if_pos hp]; rfl
  rw [if_neg (by omega), if_neg (not_not_intro hp)]
  by_cases h2 : s1.remain = 2 ∧ pte / 2^7 % 2 = 1
  · rw [if_neg (by omega), if_pos h2, if_neg (by omega), if_pos h2]
    exact simRes_huge rfl hr1 (Nat.le_of_lt hrn) hinv hspan rfl
  by_cases h3 : s1.remain = 3 ∧ pte / 2^7 % 2 = 1
  · rw [if_neg (by omega), if_neg h2, if_pos h3, if_pos h3]
    exact simRes_huge rfl hr1 (Nat.le_of_lt hrn) hinv hspan rfl
  rw [if_neg h2, if_neg h3, if_neg h3, if_neg h2]
  exact simRes_leafOrTable (s' := { s1 with raw := raw }) hr1 (by omega) rfl rfl hinv rfl

theorem stepSim_ia32Pae (hfmt : pf.fmt = .ia32Pae) (hmask : pteMask < W)
    (hspan : spanBits pf.fieldsz pf.fieldsz.length ≤ 64) :
    StepSim decodeIa32Pae mem t pteMask pf 8 va := by
  refine stepSim_of_body (fun s => by rw [nextStepPgt, hfmt]; rfl) hmask ?_
  intro s1 raw pte hr1 hrn hinv _ _
  simp only [decodeIa32Pae, testBit, Nat.pow_zero, Nat.div_one, Bool.not_eq_true',
    decide_eq_false_iff_not, decide_eq_true_eq]
  by_cases hp : pte % 2 = 1
  case neg => rw [if_pos (by omega), if_pos hp]; rfl
  rw [if_neg (by omega), if_neg (not_not_intro hp)]
  by_cases h2 : s1.remain = 2 ∧ pte / 2^7 % 2 = 1
  · rw [if_pos h2, if_pos h2]
    exact simRes_huge rfl hr1 (Nat.le_of_lt hrn) hinv hspan rfl
  rw [if_neg h2, if_neg h2]
  exact simRes_leafOrTable (s' := { s1 with raw := raw }) hr1 (by omega) rfl rfl hinv rfl

theorem stepSim_ia32 (hmem : MemWF mem) (hfmt : pf.fmt = .ia32) (hmask : pteMask < W)
    (hspan : spanBits pf.fieldsz pf.fieldsz.length ≤ 64) :
    StepSim decodeIa32 mem t pteMask pf 4 va := by
  refine stepSim_of_body (fun s => by rw [nextStepPgt, hfmt]; rfl) hmask ?_
  intro s1 raw pte hr1 hrn hinv hm hpte
  have hlt : pte < 2^32 := hpte ▸ Nat.lt_of_le_of_lt Nat.and_le_left (hmem _ _ _ _ hm)
  simp only [decodeIa32, testBit, Nat.pow_zero, Nat.div_one, Bool.not_eq_true',
    decide_eq_false_iff_not, decide_eq_true_eq]
  by_cases hp : pte % 2 = 1
  case neg => rw [if_pos (by omega), if_pos hp]; rfl
  rw [if_neg (by omega), if_neg (not_not_intro hp)]
  by_cases h2 : s1.remain = 2 ∧ pte / 2^7 % 2 = 1
  · rw [if_pos h2, if_pos h2]
    refine simRes_huge rfl hr1 (Nat.le_of_lt hrn) hinv hspan ?_
    -- PSE-36: the high address bits are disjoint from the 32-bit entry
    show FullAddr.mk (pte / 2^22 * 2^22 ||| pte / 2^13 % 2^8 * 2^32) t = _
    rw [or_eq_add' _ _ _ (Nat.lt_of_le_of_lt (Nat.div_mul_le_self _ _) hlt)]
  rw [if_neg h2, if_neg h2]
  exact simRes_leafOrTable (s' := { s1 with raw := raw }) hr1 (by omega) rfl rfl hinv rfl

theorem stepSim_pfn (sz : Nat) (hfmt : (pf.fmt = .pfn32 ∧ sz = 4) ∨ (pf.fmt = .pfn64 ∧ sz = 8))
    (hmask : pteMask < W) :
    StepSim (decodePfn pf.fieldsz) mem t pteMask pf sz va := by
  have hnext (s) : nextStepPgt extra mem t pteMask pf s = pgtPfn mem sz t pteMask pf s := by
    rcases hfmt with ⟨h, rfl⟩ | ⟨h, rfl⟩ <;> simp only [nextStepPgt, h]
  refine stepSim_of_body (fun s => (hnext s).trans rfl) hmask ?_
  intro s1 raw pte hr1 hrn hinv _ _
  simp only [decodePfn]
  by_cases hp : pte = 0
  · rw [if_pos hp, if_pos hp]; rfl
  rw [if_neg hp, if_neg hp]
  by_cases h1 : s1.remain = 1
  · rw [if_pos h1, if_pos h1]
    exact ⟨_, rfl, h1, rfl, rfl, h1 ▸ idxAt_zero hinv (by omega)⟩
  · rw [if_neg h1, if_neg h1]
    exact ⟨by omega, _, rfl, rfl, rfl, rfl, rfl⟩

theorem stepSim_riscv64 (hfmt : pf.fmt = .riscv64) (hmask : pteMask < W)
    (hf0 : pf.fieldsz.getD 0 0 = 12) (hspan : spanBits pf.fieldsz pf.fieldsz.length ≤ 64) :
    StepSim (decodeRiscv64 pf.fieldsz) mem t pteMask pf 8 va := by
  refine stepSim_of_body (fun s => by rw [nextStepPgt, hfmt]; rfl) hmask ?_
  intro s1 raw pte hr1 hrn hinv _ _
  have hppnlt : pte / 2^10 % 2^44 * 2^12 < W := by
    have : pte / 2^10 % 2^44 < 2^44 := Nat.mod_lt _ (Nat.two_pow_pos _)
    show _ < 2^64
    omega
  simp only [decodeRiscv64, bits, Nat.pow_zero, Nat.div_one, Nat.pow_one, Nat.mod_eq_of_lt hppnlt]
  generalize pte / 2^10 % 2^44 = ppn at hppnlt ⊢
  have hcl : ppn * 2^12 = ppn * 2^12 / 2^12 * 2^12 := by
    rw [Nat.mul_div_cancel _ (Nat.two_pow_pos 12)]
  by_cases hp : pte % 2 = 0
  · rw [if_pos hp, if_pos hp]; rfl
  rw [if_neg hp, if_neg hp]
  by_cases hperm : pte / 2 % 2^3 = 0
  · rw [if_pos hperm, if_neg (show ¬ (s1.remain > 1 ∧ pte / 2 % 2^3 ≠ 0) from fun h => h.2 hperm)]
    by_cases h1 : s1.remain = 1
    · rw [if_pos h1, if_pos ⟨h1, hperm⟩]; rfl
    · rw [if_neg h1, if_neg (show ¬ (s1.remain = 1 ∧ _) from fun h => h1 h.1)]
      exact simRes_leafOrTable_table rfl (by omega) rfl rfl hcl
  · rw [if_neg hperm]
    by_cases h1 : s1.remain = 1
    · rw [if_neg (show ¬ (s1.remain > 1 ∧ _) by omega),
        if_neg (show ¬ (s1.remain = 1 ∧ _) from fun h => hperm h.2), h1, span_one, hf0]
      exact simRes_leafOrTable_leaf rfl rfl (by omega) hinv rfl
    · have hs : spanBits pf.fieldsz s1.remain ≤ 64 := Nat.le_trans (span_mono _ (Nat.le_of_lt hrn)) hspan
      rw [if_pos (show s1.remain > 1 ∧ _ from ⟨by omega, hperm⟩)]
      refine simRes_huge rfl hr1 (Nat.le_of_lt hrn) hinv hspan ?_
      show FullAddr.mk _ _ = _
      rw [tableMask_eq _ _ hs, and_not_mask _ _ hppnlt hs]

end

end Kdf.Lemmas.Pgt
