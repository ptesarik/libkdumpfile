import Kdf.Model.Map
import Kdf.Lemmas.Basic
/-! Helper definitions and lemmas for C10 (function view of a map). -/
namespace Kdf.Lemmas.Map
open Kdf.Model.Map

/-- Number of addresses covered by the ranges. -/
def total : Map → Nat
  | [] => 0
  | r :: rs => r.endoff + 1 + total rs

/-- Well-formed: empty (never set) or tiling `[0, 2^64)` exactly. -/
def WF (m : Map) : Prop := m = [] ∨ total m = W

/-- Independent function view, no wrap-around: value at `a` of the ranges `m`
laid out from `start`. -/
def den : Map → Nat → Nat → Int
  | [], _, _ => NONE
  | r :: rs, start, a => if a ≤ start + r.endoff then r.meth else den rs (start + r.endoff + 1) a

@[simp] theorem total_nil : total [] = 0 := rfl
@[simp] theorem total_cons (r : Range) (rs : Map) : total (r :: rs) = r.endoff + 1 + total rs := rfl

@[simp] theorem total_append (xs ys : Map) : total (xs ++ ys) = total xs + total ys := by
  induction xs with
  | nil => simp
  | cons x xs ih => simp [ih]; omega

theorem total_pos {m : Map} (h : m ≠ []) : 0 < total m := by
  cases m with
  | nil => exact absurd rfl h
  | cons x xs => simp; omega

theorem den_append (xs ys : Map) (s a : Nat) (hs : s ≤ a) :
    den (xs ++ ys) s a = if a < s + total xs then den xs s a else den ys (s + total xs) a := by
  induction xs generalizing s with
  | nil => simp; omega
  | cons x xs ih =>
    simp only [List.cons_append, den, total_cons]
    by_cases h1 : a ≤ s + x.endoff
    · have : a < s + (x.endoff + 1 + total xs) := by omega
      simp [h1, this]
    · simp only [h1, if_false]
      rw [ih _ (by omega)]
      have e : s + x.endoff + 1 + total xs = s + (x.endoff + 1 + total xs) := by omega
      rw [e]

/-- `n` consecutive addresses with method `m`: the remainder of a cut range. -/
def runOf (n : Nat) (m : Int) : Map := if n = 0 then [] else [⟨n - 1, m⟩]

theorem total_runOf (n : Nat) (m : Int) : total (runOf n m) = n := by
  unfold runOf; split
  · simp [*]
  · simp only [total_cons, total_nil]; omega

theorem den_runOf_append (n : Nat) (m : Int) (rest : Map) (s a : Nat) (hs : s ≤ a) :
    den (runOf n m ++ rest) s a = if a < s + n then m else den rest (s + n) a := by
  unfold runOf; split
  · subst n; rw [if_neg (by omega)]; rfl
  · simp only [List.cons_append, List.nil_append, den]
    have e : s + (n - 1) + 1 = s + n := by omega
    rw [e]
    by_cases h : a < s + n
    · rw [if_pos h, if_pos (by omega)]
    · rw [if_neg h, if_neg (by omega)]

/-- The remainder of a cut range is merged into the new range when the methods agree. -/
theorem den_absorb_lo (fm rm : Int) (n x : Nat) (rest : Map) (s a : Nat) (hs : s ≤ a) :
    den ((if fm = rm then [] else runOf n fm) ++ ⟨(if fm = rm then n else 0) + x, rm⟩ :: rest) s a
      = if a < s + n then fm else den (⟨x, rm⟩ :: rest) (s + n) a := by
  by_cases h : fm = rm
  · subst h
    simp only [if_true, List.nil_append, den]
    rw [show s + (n + x) = s + n + x by omega]
    by_cases h : a < s + n
    · rw [if_pos h, if_pos (by omega)]
    · rw [if_neg h]
  · simp only [if_neg h, Nat.zero_add]; exact den_runOf_append n fm _ s a hs

theorem den_absorb_hi (lm rm : Int) (y n : Nat) (s a : Nat) (ha : a ≤ s + y + n) :
    den (⟨y + (if lm = rm then n else 0), rm⟩ :: (if lm = rm then [] else runOf n lm)) s a
      = if a ≤ s + y then rm else lm := by
  by_cases h : lm = rm
  · subst h; simp only [if_true, den]; rw [if_pos (by omega)]; split <;> rfl
  · simp only [if_neg h, Nat.add_zero, den]
    by_cases h2 : a ≤ s + y
    · rw [if_pos h2, if_pos h2]
    · rw [if_neg h2, if_neg h2, ← List.append_nil (runOf n lm), den_runOf_append _ _ _ _ _ (by omega),
        if_pos (by omega)]

theorem runOf_wrap {a b : Nat} (hb : b ≤ a) (ha : a < W) (m : Int) :
    (if a ≠ b then [(⟨(a + W - b + W - 1) % W, m⟩ : Range)] else []) = runOf (a - b) m := by
  unfold runOf
  by_cases e : a = b
  · subst e; simp
  · rw [if_pos e, if_neg (by omega), add_sub_pred_mod (by omega) ha]

theorem searchFrom_mem (m : Map) (raddr a : Nat) :
    searchFrom m raddr a = NONE ∨
    ∃ r ∈ m, r.meth = searchFrom m raddr a := by
  induction m generalizing raddr with
  | nil => left; rfl
  | cons r rs ih =>
    unfold searchFrom
    split
    · right; exact ⟨r, List.mem_cons_self, rfl⟩
    · rcases ih ((raddr + r.endoff + 1) % W) with h | ⟨q, hq, he⟩
      · left; exact h
      · right; exact ⟨q, List.mem_cons_of_mem _ hq, he⟩

theorem mapSearch_mem (m : Map) (a : Nat) :
    mapSearch m a = NONE ∨
    ∃ r ∈ m, r.meth = mapSearch m a :=
  searchFrom_mem m 0 a

theorem searchFrom_eq_den (m : Map) (raddr a : Nat) (h : raddr + total m = W) :
    searchFrom m raddr a = den m raddr a := by
  induction m generalizing raddr with
  | nil => rfl
  | cons x xs ih =>
    simp only [total_cons] at h
    have hlt : raddr + x.endoff < W := by omega
    simp only [searchFrom, den, Nat.mod_eq_of_lt hlt]
    split
    · rfl
    · cases xs with
      | nil => simp [searchFrom, den]
      | cons y ys =>
        have : raddr + x.endoff + 1 < W := by simp only [total_cons] at h; omega
        rw [Nat.mod_eq_of_lt this]
        exact ih _ (by omega)

theorem scanFirst_spec (addr : Nat) (m : Map) (i raddr : Nat)
    (h : raddr + total m = W) (ha : raddr ≤ addr) (haw : addr < W) :
    ∃ P f rest, m = P ++ f :: rest ∧
      scanFirst addr m i raddr = (i + P.length, raddr + total P) ∧
      raddr + total P ≤ addr ∧ addr ≤ raddr + total P + f.endoff := by
  induction m generalizing i raddr with
  | nil => simp at h; omega
  | cons x xs ih =>
    simp only [total_cons] at h
    have hlt : raddr + x.endoff < W := by omega
    simp only [scanFirst, Nat.mod_eq_of_lt hlt]
    split
    · exact ⟨[], x, xs, rfl, by simp, by simpa using ha, by simpa⟩
    · rename_i hn
      have hlt2 : raddr + x.endoff + 1 < W := by omega
      rw [Nat.mod_eq_of_lt hlt2]
      obtain ⟨P, f, rest, e, hs, h1, h2⟩ := ih (i+1) (raddr + x.endoff + 1) (by omega) (by omega)
      refine ⟨x :: P, f, rest, by simp [e], ?_, ?_, ?_⟩
      · rw [hs]; simp; omega
      · simp; omega
      · simp; omega

/-- The second scan stops on the first range `l` that reaches `end_`; it has passed over `T'`. -/
theorem scanLast_spec (end_ : Nat) (rest : Map) : ∀ (cur : Range) (li left s : Nat) (delta : Int),
    left = rest.length + 1 → s + total (cur :: rest) = W → end_ < W → s ≤ end_ + 1 →
    ∃ T' l S, cur :: rest = T' ++ l :: S ∧
      scanLast end_ rest li left (s + cur.endoff) delta
        = some (li + T'.length, 1 + S.length, s + total T' + l.endoff, delta - T'.length) ∧
      end_ ≤ s + total T' + l.endoff ∧ s + total T' ≤ end_ + 1 := by
  induction rest with
  | nil =>
    intro cur li left s delta hleft hsum hend hs
    simp only [total_cons, total_nil] at hsum
    refine ⟨[], cur, [], rfl, ?_, by simp only [total_nil]; omega, hs⟩
    unfold scanLast
    have : s + cur.endoff ≥ end_ := by omega
    simp [hleft, this]
  | cons x xs ih =>
    intro cur li left s delta hleft hsum hend hs
    simp only [total_cons] at hsum
    by_cases hge : s + cur.endoff ≥ end_
    · refine ⟨[], cur, x :: xs, rfl, ?_, by simpa using hge, hs⟩
      unfold scanLast
      simp [hleft, hge]; omega
    · obtain ⟨T', l, S, e, hsc, h1, h2⟩ := ih x (li + 1) (left - 1) (s + cur.endoff + 1) (delta - 1)
        (by simp at hleft; omega) (by simp only [total_cons]; omega) hend (by omega)
      refine ⟨cur :: T', l, S, by rw [e]; rfl, ?_, by simp only [total_cons]; omega,
        by simp only [total_cons]; omega⟩
      unfold scanLast
      have hl : left ≠ 0 := by omega
      simp only [hl, hge, if_false, Nat.mod_eq_of_lt (by omega : s + cur.endoff + x.endoff + 1 < W)]
      rw [show s + cur.endoff + x.endoff + 1 = s + cur.endoff + 1 + x.endoff by omega, hsc]
      simp; omega

/-- "include the previous region if it can be merged" -/
def mergeDown (m : Map) (addr : Nat) (r : Range) (fi0 raddr0 : Nat) : Option (Nat × Nat) :=
  if raddr0 ≠ 0 ∧ raddr0 = addr then
    match (if fi0 = 0 then none else m[fi0 - 1]?) with
    | none => none
    | some p =>
      if p.meth = r.meth then some (fi0 - 1, (raddr0 + W - (p.endoff + 1) % W) % W)
      else some (fi0, raddr0)
  else some (fi0, raddr0)

/-- "include the following region if it can be merged" -/
def mergeUp (m : Map) (r : Range) (end_ : Nat) (li0 left1 rend0 : Nat) (delta0 : Int) :
    Option (Nat × Nat × Nat × Int) :=
  if left1 > 1 ∧ rend0 = end_ then
    match m[li0 + 1]? with
    | none => none
    | some q =>
      if q.meth = r.meth then some (li0 + 1, left1 - 1, (rend0 + q.endoff + 1) % W, delta0 - 1)
      else some (li0, left1, rend0, delta0)
  else some (li0, left1, rend0, delta0)

/-- "merge up and/or down", "split begin and/or end" -/
def finishPlan (addr : Nat) (r : Range) (fi raddr1 : Nat) (f : Range) (li left rend1 : Nat)
    (delta1 : Int) (l : Range) : Plan :=
  let end_ := (addr + r.endoff) % W
  let (ext1, raddr) := if f.meth = r.meth then ((addr + W - raddr1) % W, addr) else (0, raddr1)
  let (extend, rend) := if l.meth = r.meth then ((ext1 + (rend1 + W - end_) % W) % W, end_) else (ext1, rend1)
  let delta2 := if addr = raddr then delta1 - 1 else delta1
  let delta := if rend = end_ then delta2 - 1 else delta2
  ⟨fi, li, left, raddr, rend, extend, delta⟩

theorem planNonEmpty_eq (m : Map) (addr : Nat) (r : Range) :
    planNonEmpty m addr r =
      (match mergeDown m addr r (scanFirst addr m 0 0).1 (scanFirst addr m 0 0).2 with
       | none => none
       | some (fi, raddr1) =>
       match m[fi]? with
       | none => none
       | some f =>
       match scanLast ((addr + r.endoff) % W) (m.drop (fi+1)) fi (m.length - fi)
            ((raddr1 + f.endoff) % W) 2 with
       | none => none
       | some (li0, left1, rend0, delta0) =>
       match mergeUp m r ((addr + r.endoff) % W) li0 left1 rend0 delta0 with
       | none => none
       | some (li, left, rend1, delta1) =>
       match m[li]? with
       | none => none
       | some l => some (finishPlan addr r fi raddr1 f li left rend1 delta1 l)) := by
  rfl

theorem mergeDown_spec (m : Map) (addr : Nat) (r : Range) (P0 : Map) (f0 : Range) (rest0 : Map)
    (hm : m = P0 ++ f0 :: rest0) (hW : total m = W)
    (h1 : total P0 ≤ addr) (h2 : addr ≤ total P0 + f0.endoff) :
    ∃ P f rest, m = P ++ f :: rest ∧
      mergeDown m addr r P0.length (total P0) = some (P.length, total P) ∧
      total P ≤ addr ∧ addr ≤ total P + f.endoff + 1 := by
  unfold mergeDown
  by_cases hc : total P0 ≠ 0 ∧ total P0 = addr
  · rw [if_pos hc]
    have hne : P0 ≠ [] := by rintro rfl; simp at hc
    obtain ⟨P', p, rfl⟩ : ∃ P' p, P0 = P' ++ [p] :=
      ⟨P0.dropLast, P0.getLast hne, (List.dropLast_concat_getLast hne).symm⟩
    have hlen : (P' ++ [p]).length ≠ 0 := by simp
    have hm' : m = P' ++ p :: (f0 :: rest0) := by simp [hm]
    have hget : m[(P' ++ [p]).length - 1]? = some p := by
      rw [hm']; exact getElem?_mid _ _ _ _ (by simp)
    simp only [if_neg hlen, hget]
    by_cases hp : p.meth = r.meth
    · rw [if_pos hp]
      refine ⟨P', p, f0 :: rest0, hm', ?_, ?_, ?_⟩
      · rw [hm'] at hW
        simp only [total_append, total_cons, total_nil] at hW h1 ⊢
        rw [Nat.mod_eq_of_lt (by omega : p.endoff + 1 < W), add_sub_mod (by omega) (by omega)]
        simp only [List.length_append, List.length_cons, List.length_nil, Option.some.injEq,
          Prod.mk.injEq]
        omega
      · simp only [total_append, total_cons, total_nil] at h1; omega
      · simp only [total_append, total_cons, total_nil] at hc; omega
    · rw [if_neg hp]; exact ⟨P' ++ [p], f0, rest0, hm, rfl, h1, by omega⟩
  · rw [if_neg hc]; exact ⟨P0, f0, rest0, hm, rfl, h1, by omega⟩

theorem scanLast_mergeUp_spec (m : Map) (r : Range) (end_ : Nat) (P : Map) (f : Range) (rest : Map)
    (hm : m = P ++ f :: rest) (hW : total m = W) (hend : end_ < W) (hs : total P ≤ end_ + 1) :
    ∃ T' l S li0 left1 rend0 delta0, f :: rest = T' ++ l :: S ∧
      scanLast end_ rest P.length (rest.length + 1) (total P + f.endoff) 2
        = some (li0, left1, rend0, delta0) ∧
      mergeUp m r end_ li0 left1 rend0 delta0
        = some (P.length + T'.length, 1 + S.length, total P + total T' + l.endoff,
            2 - (T'.length : Int)) ∧
      end_ ≤ total P + total T' + l.endoff ∧ total P + total T' ≤ end_ + 1 := by
  have hW' : total P + total (f :: rest) = W := by
    rw [hm] at hW; simpa only [total_append] using hW
  obtain ⟨U, l0, S0, e, hsc, h1, h2⟩ :=
    scanLast_spec end_ rest f P.length (rest.length + 1) (total P) 2 rfl hW' hend hs
  by_cases hc : 1 + S0.length > 1 ∧ total P + total U + l0.endoff = end_
  · cases S0 with
    | nil => simp at hc
    | cons q S =>
      have hget : m[P.length + U.length + 1]? = some q := by
        have : m = (P ++ (U ++ [l0])) ++ q :: S := by rw [hm, e]; simp
        rw [this]; exact getElem?_mid _ _ _ _ (by simp; omega)
      by_cases hq : q.meth = r.meth
      · refine ⟨U ++ [l0], q, S, _, _, _, _, by rw [e]; simp, hsc, ?_, ?_, ?_⟩
        · unfold mergeUp
          simp only [if_pos hc, hget, if_pos hq]
          rw [e] at hW'
          simp only [total_append, total_cons, total_nil] at hW' ⊢
          rw [Nat.mod_eq_of_lt (by omega)]
          simp only [List.length_append, List.length_cons, List.length_nil, Option.some.injEq,
            Prod.mk.injEq]
          omega
        · simp only [total_append, total_cons, total_nil]; omega
        · simp only [total_append, total_cons, total_nil]; omega
      · exact ⟨U, l0, q :: S, _, _, _, _, e, hsc,
          by unfold mergeUp; simp only [if_pos hc, hget, if_neg hq], h1, h2⟩
  · exact ⟨U, l0, S0, _, _, _, _, e, hsc, by unfold mergeUp; simp only [if_neg hc], h1, h2⟩

/-- `if (addr == raddr) --delta; if (rend == end) --delta;` counts the tests that fail
(`y` stands for `x - 1` so that the empty map's `if … then 2 else 3` matches too). -/
theorem delta_count {a b u v : Nat} (x y : Int) (hy : y = x - 1) :
    (if u = v then (if a = b then y else x) - 1 else (if a = b then y else x))
      = x - 2 + (if b ≠ a then 1 else 0) + (if u ≠ v then 1 else 0) := by
  subst hy
  by_cases h1 : a = b <;> by_cases h2 : u = v <;> simp [h1, h2, eq_comm (a := b)] <;> omega

section finishPlan
variable (addr : Nat) (r : Range) (fi raddr1 : Nat) (f : Range) (li left rend1 : Nat)
    (delta1 : Int) (l : Range)

@[simp] theorem finishPlan_fi : (finishPlan addr r fi raddr1 f li left rend1 delta1 l).fi = fi := rfl
@[simp] theorem finishPlan_li : (finishPlan addr r fi raddr1 f li left rend1 delta1 l).li = li := rfl
@[simp] theorem finishPlan_left :
    (finishPlan addr r fi raddr1 f li left rend1 delta1 l).left = left := rfl

theorem finishPlan_eq (hr : addr + r.endoff < W) (h1 : raddr1 ≤ addr)
    (h2 : addr + r.endoff ≤ rend1) (h3 : rend1 < W) :
    finishPlan addr r fi raddr1 f li left rend1 delta1 l =
      ⟨fi, li, left, if f.meth = r.meth then addr else raddr1,
        if l.meth = r.meth then addr + r.endoff else rend1,
        (if f.meth = r.meth then addr - raddr1 else 0)
          + (if l.meth = r.meth then rend1 - (addr + r.endoff) else 0),
        delta1 - 2 + (if (if f.meth = r.meth then addr else raddr1) ≠ addr then 1 else 0)
          + (if (if l.meth = r.meth then addr + r.endoff else rend1) ≠ addr + r.endoff
              then 1 else 0)⟩ := by
  have hlo : (addr + W - raddr1) % W = addr - raddr1 := add_sub_mod h1 (by omega)
  have hhi : (rend1 + W - (addr + r.endoff)) % W = rend1 - (addr + r.endoff) := add_sub_mod h2 h3
  have hhi' : (rend1 - (addr + r.endoff)) % W = rend1 - (addr + r.endoff) :=
    Nat.mod_eq_of_lt (by omega)
  have hsum : (addr - raddr1 + (rend1 - (addr + r.endoff))) % W
      = addr - raddr1 + (rend1 - (addr + r.endoff)) := Nat.mod_eq_of_lt (by omega)
  simp only [finishPlan, Nat.mod_eq_of_lt hr, hlo, hhi, delta_count _ _ rfl]
  by_cases hf : f.meth = r.meth <;> by_cases hl : l.meth = r.meth <;>
    simp only [hf, hl, if_true, if_false, hsum, hhi', Nat.zero_add, Nat.add_zero]
end finishPlan

/-- What the plan computed on the decomposition `P ++ f :: T ++ S` of the map
(`f :: T = T' ++ [l]`: `f` is `first`, `l` is `last`) looks like. -/
structure PlanSpec (P T' S : Map) (f l : Range) (T : Map) (addr : Nat) (r : Range) (p : Plan) :
    Prop where
  shape : f :: T = T' ++ [l]
  fi : p.fi = P.length
  li : p.li = P.length + T'.length
  left : p.left = 1 + S.length
  guard : addr + r.endoff < W
  lo1 : total P ≤ addr
  lo2 : addr ≤ total P + f.endoff + 1
  hi1 : addr + r.endoff + 1 ≤ total P + total (f :: T)
  hi2 : total P + total T' ≤ addr + r.endoff + 1
  tot : total P + total (f :: T) + total S = W
  raddr : p.raddr = if f.meth = r.meth then addr else total P
  rend : p.rend = if l.meth = r.meth then addr + r.endoff else total P + total (f :: T) - 1
  extend : p.extend = (if f.meth = r.meth then addr - total P else 0)
      + (if l.meth = r.meth then total P + total (f :: T) - 1 - (addr + r.endoff) else 0)
  delta : p.delta = (if p.raddr ≠ addr then 1 else 0)
      + (if p.rend ≠ addr + r.endoff then 1 else 0) - (T'.length : Int)

theorem finishPlan_spec {P T' S : Map} {f l : Range} {T : Map} {addr : Nat} {r : Range}
    (shape : f :: T = T' ++ [l]) (guard : addr + r.endoff < W)
    (lo1 : total P ≤ addr) (lo2 : addr ≤ total P + f.endoff + 1)
    (hi1 : addr + r.endoff + 1 ≤ total P + total (f :: T))
    (hi2 : total P + total T' ≤ addr + r.endoff + 1)
    (tot : total P + total (f :: T) + total S = W) :
    PlanSpec P T' S f l T addr r
      (finishPlan addr r P.length (total P) f (P.length + T'.length) (1 + S.length)
        (total P + total (f :: T) - 1) (2 - T'.length) l) := by
  have hfT : total (f :: T) = f.endoff + 1 + total T := rfl
  rw [finishPlan_eq _ _ _ _ _ _ _ _ _ _ guard lo1 (by omega) (by omega)]
  exact ⟨shape, rfl, rfl, rfl, guard, lo1, lo2, hi1, hi2, tot, rfl, rfl, rfl, by dsimp only; omega⟩

theorem planNonEmpty_spec (m : Map) (hW : total m = W) (addr : Nat) (r : Range)
    (hr : addr + r.endoff < W) :
    ∃ P T' S f l T p, m = P ++ f :: T ++ S ∧ planNonEmpty m addr r = some p ∧
      PlanSpec P T' S f l T addr r p := by
  obtain ⟨P0, f0, rest0, hm0, hs, h1, h2⟩ :=
    scanFirst_spec addr m 0 0 (by omega) (Nat.zero_le _) (by omega)
  simp only [Nat.zero_add] at hs h1 h2
  obtain ⟨P, f, rest, hm, hmd, h3, h4⟩ := mergeDown_spec m addr r P0 f0 rest0 hm0 hW h1 h2
  obtain ⟨T', l, S, li0, left1, rend0, delta0, e, hsl, hmu, h5, h6⟩ :=
    scanLast_mergeUp_spec m r (addr + r.endoff) P f rest hm hW hr (by omega)
  obtain ⟨T, hshape⟩ : ∃ T, f :: T = T' ++ [l] := by
    cases T' with
    | nil => obtain ⟨rfl, -⟩ := List.cons.inj e; exact ⟨[], rfl⟩
    | cons x T0 => obtain ⟨rfl, -⟩ := List.cons.inj e; exact ⟨T0 ++ [l], rfl⟩
  have hmS : m = P ++ f :: T ++ S := by rw [hm, e, List.append_assoc P (f :: T) S, hshape]; simp
  have hgf : m[P.length]? = some f := by rw [hm]; exact getElem?_mid _ _ _ _ rfl
  have hgl : m[P.length + T'.length]? = some l := by
    have : m = (P ++ T') ++ l :: S := by rw [hm, e]; simp
    rw [this]; exact getElem?_mid _ _ _ _ (by simp)
  have hmod : (addr + r.endoff) % W = addr + r.endoff := Nat.mod_eq_of_lt hr
  have hdrop : m.drop (P.length + 1) = rest := by rw [hm]; simp
  have hlen : m.length - P.length = rest.length + 1 := by rw [hm]; simp
  have htot : total P + total (f :: T) + total S = W := by
    rw [hmS] at hW; simpa only [total_append] using hW
  have hfT : total (f :: T) = f.endoff + 1 + total T := rfl
  have hmod2 : (total P + f.endoff) % W = total P + f.endoff := Nat.mod_eq_of_lt (by omega)
  have hp : planNonEmpty m addr r = some (finishPlan addr r P.length (total P) f
      (P.length + T'.length) (1 + S.length) (total P + total T' + l.endoff) (2 - T'.length) l) := by
    rw [planNonEmpty_eq]
    simp only [hs, hmd, hgf, hmod, hdrop, hlen, hmod2, hsl, hmu, hgl]
  have hT' : total (f :: T) = total T' + (l.endoff + 1 + 0) := by
    rw [hshape, total_append]; rfl
  rw [show total P + total T' + l.endoff = total P + total (f :: T) - 1 by omega] at hp
  exact ⟨P, T', S, f, l, T, _, hmS, hp, finishPlan_spec hshape hr h3 h4 (by omega) h6 htot⟩

/-- The ranges after a successful `addrxlat_map_set`. -/
def newMap (P S : Map) (f l r : Range) (addr : Nat) (p : Plan) : Map :=
  P ++ (if p.raddr ≠ addr then [⟨(addr + W - p.raddr + W - 1) % W, f.meth⟩] else [])
    ++ [⟨(r.endoff + p.extend) % W, r.meth⟩]
    ++ (if p.rend ≠ (addr + r.endoff) % W
          then [⟨(p.rend + W - (addr + r.endoff) % W + W - 1) % W, l.meth⟩] else [])
    ++ S

/-- The end of `applyPlan`: `map->n = n'`. -/
def finish (arr : Map) (n' : Nat) : Option Map → Status × Map
  | none => (.oob, arr)
  | some a4 => if n' ≤ a4.length then (.ok, a4.take n') else (.oob, arr)

/-- `applyPlan` after the `memmove`. -/
def applyWrites (arr a1 : Map) (li n' : Nat) (p : Plan) (addr : Nat) (r : Range) : Status × Map :=
  let end_ := (addr + r.endoff) % W
  let s1 : Option (Map × Nat) :=
    if p.raddr ≠ addr then
      match setEndoff a1 p.fi ((addr + W - p.raddr + W - 1) % W) with
      | none => none
      | some a => some (a, p.fi + 1)
    else some (a1, p.fi)
  match s1 with
  | none => (.oob, arr)
  | some (a2, fi) =>
  let s2 : Option Map :=
    if p.rend ≠ end_ then setEndoff a2 li ((p.rend + W - end_ + W - 1) % W)
    else some a2
  match s2 with
  | none => (.oob, arr)
  | some a3 =>
  finish arr n' (setRange a3 fi ⟨(r.endoff + p.extend) % W, r.meth⟩)

/-- `memmove(last + delta, last, left)` and the bookkeeping around it. -/
def moved (arr : Map) (n : Nat) (p : Plan) : Option (Map × Nat × Nat) :=
  if p.delta = 0 then some (arr, p.li, n)
  else
    let dst : Int := (p.li : Int) + p.delta
    let n' : Int := (n : Int) + p.delta
    if dst < 0 ∨ n' < 0 then none
    else match memmove arr dst.toNat p.li p.left with
      | none => none
      | some a => some (a, dst.toNat, n'.toNat)

theorem applyPlan_eq (arr : Map) (n : Nat) (p : Plan) (addr : Nat) (r : Range) :
    applyPlan arr n p addr r =
      match moved arr n p with
      | none => (.oob, arr)
      | some (a1, li, n') => applyWrites arr a1 li n' p addr r := by
  rfl

theorem setEndoff_append (A : Map) (x : Range) (B : Map) (v : Nat) :
    setEndoff (A ++ x :: B) A.length v = some (A ++ ⟨v, x.meth⟩ :: B) := by
  simp [setEndoff]

theorem setRange_append (A : Map) (x : Range) (B : Map) (y : Range) :
    setRange (A ++ x :: B) A.length y = some (A ++ y :: B) := by
  simp [setRange]

theorem finish_ok {o : Option Map} {X : Map} {n' : Nat} (arr C : Map) (h : o = some (X ++ C))
    (hn : n' = X.length) : finish arr n' o = (.ok, X) := by
  subst h hn; simp [finish]

theorem applyWrites_spec (arr P A' S C : Map) (f l : Range) (p : Plan) (addr : Nat) (r : Range)
    (hfi : p.fi = P.length)
    (hk : A'.length = (if p.raddr ≠ addr then 1 else 0)
        + (if p.rend ≠ (addr + r.endoff) % W then 1 else 0))
    (hhead : p.raddr ≠ addr → A'.head? = some f) :
    applyWrites arr (P ++ A' ++ l :: S ++ C) (P.length + A'.length)
        (P.length + A'.length + 1 + S.length) p addr r
      = (.ok, newMap P S f l r addr p) := by
  unfold applyWrites newMap
  dsimp only
  generalize (addr + W - p.raddr + W - 1) % W = v1
  generalize (p.rend + W - (addr + r.endoff) % W + W - 1) % W = v2
  generalize (r.endoff + p.extend) % W = v3
  generalize (addr + r.endoff) % W = end_ at *
  -- in each case `simp` carries out the writes and `finish_ok` cuts off the spare capacity `C`
  by_cases hb : p.raddr = addr <;> by_cases he : p.rend = end_ <;>
    simp only [hb, he, ne_eq, not_true, not_false_eq_true, if_false, if_true] at hk hhead ⊢
  · -- no split
    obtain rfl : A' = [] := List.length_eq_zero_iff.mp hk
    simp [setRange, hfi]
    exact finish_ok arr C (by simp) (by simp; omega)
  · -- split end
    obtain ⟨x, rfl⟩ : ∃ x, A' = [x] := List.length_eq_one_iff.mp hk
    simp [setRange, setEndoff, hfi]
    exact finish_ok arr C (by simp) (by simp; omega)
  · -- split begin
    obtain ⟨x, rfl⟩ : ∃ x, A' = [x] := List.length_eq_one_iff.mp hk
    obtain rfl : x = f := by simpa using hhead
    simp [setRange, setEndoff, hfi]
    exact finish_ok arr C (by simp) (by simp; omega)
  · -- split both
    obtain ⟨x, y, rfl⟩ : ∃ x y, A' = [x, y] := length_eq_two hk
    obtain rfl : x = f := by simpa using hhead
    simp [setRange, setEndoff, hfi]
    exact finish_ok arr C (by simp) (by simp; omega)

theorem memmove_spec (P T' Y G : Map) (k cnt : Nat) (hcnt : cnt = Y.length)
    (hG : T'.length + G.length ≥ k) :
    memmove (P ++ (T' ++ (Y ++ G))) (P.length + k) (P.length + T'.length) cnt
      = some (P ++ (T' ++ (Y ++ G)).take k ++ Y
          ++ (P ++ (T' ++ (Y ++ G))).drop (P.length + k + cnt)) := by
  subst hcnt
  unfold memmove
  rw [if_pos (by simp; omega), List.take_length_add_append, List.drop_length_add_append]
  simp

theorem moved_spec (P T' S G : Map) (f l : Range) (T : Map) (p : Plan) (k : Nat)
    (hshape : f :: T = T' ++ [l]) (hli : p.li = P.length + T'.length)
    (hleft : p.left = 1 + S.length)
    (hdelta : p.delta = (k : Int) - T'.length) (hG : G.length = p.delta.toNat) :
    ∃ A' C, A'.length = k ∧ (0 < k → A'.head? = some f) ∧
      moved (P ++ f :: T ++ S ++ G) (P.length + T'.length + 1 + S.length) p
        = some (P ++ A' ++ l :: S ++ C, P.length + k, P.length + k + 1 + S.length) := by
  have harr : P ++ f :: T ++ S ++ G = P ++ (T' ++ ((l :: S) ++ G)) := by
    rw [List.append_assoc P, hshape]; simp
  refine ⟨(T' ++ ((l :: S) ++ G)).take k, (P ++ (T' ++ ((l :: S) ++ G))).drop (P.length + k + (1 + S.length)), ?_, ?_, ?_⟩
  · simp; omega
  · intro hk
    have : T' ++ ((l :: S) ++ G) = f :: (T ++ S ++ G) := by
      have e : T' ++ ((l :: S) ++ G) = (T' ++ [l]) ++ S ++ G := by simp
      rw [e, ← hshape]; simp
    rw [this]
    obtain ⟨k', rfl⟩ : ∃ k', k = k' + 1 := ⟨k - 1, by omega⟩
    simp
  · unfold moved
    by_cases hd : p.delta = 0
    · rw [if_pos hd]
      have hk : k = T'.length := by omega
      have hG0 : G = [] := by rw [hd] at hG; simpa using hG
      subst hG0 hk
      rw [harr]
      simp [hli]
      omega
    · rw [if_neg hd]
      have h1 : ((p.li : Int) + p.delta) = ((P.length + k : Nat) : Int) := by rw [hli, hdelta]; push_cast; omega
      have h2 : (((P.length + T'.length + 1 + S.length : Nat) : Int) + p.delta) = ((P.length + k + 1 + S.length : Nat) : Int) := by
        rw [hdelta]; push_cast; omega
      rw [h1, h2]
      rw [if_neg (by omega)]
      simp only [Int.toNat_natCast]
      rw [harr, hli, hleft, memmove_spec P T' (l :: S) G k _ (by simp; omega) (by omega)]

/-- The rewritten middle part, in plain arithmetic. -/
def midOf (R1 addr e R2 : Nat) (fm lm rm : Int) : Map :=
  (if fm = rm then [] else runOf (addr - R1) fm)
    ++ ⟨(if fm = rm then addr - R1 else 0) + (e - addr + (if lm = rm then R2 - e else 0)), rm⟩
    :: (if lm = rm then [] else runOf (R2 - e) lm)

theorem midOf_total (R1 addr e R2 : Nat) (fm lm rm : Int)
    (h1 : R1 ≤ addr) (h2 : addr ≤ e) (h3 : e ≤ R2) :
    total (midOf R1 addr e R2 fm lm rm) = R2 + 1 - R1 := by
  have lo : total (if fm = rm then [] else runOf (addr - R1) fm) + (if fm = rm then addr - R1 else 0)
      = addr - R1 := by split <;> simp [total_runOf]
  have hi : total (if lm = rm then [] else runOf (R2 - e) lm) + (if lm = rm then R2 - e else 0)
      = R2 - e := by split <;> simp [total_runOf]
  simp only [midOf, total_append, total_cons]
  omega

theorem midOf_den (R1 addr e R2 : Nat) (fm lm rm : Int)
    (h1 : R1 ≤ addr) (h2 : addr ≤ e) (h3 : e ≤ R2) (a : Nat) (ha1 : R1 ≤ a) (ha2 : a ≤ R2) :
    den (midOf R1 addr e R2 fm lm rm) R1 a
      = if addr ≤ a ∧ a ≤ e then rm else if a < addr then fm else lm := by
  have e1 : R1 + (addr - R1) = addr := by omega
  have e2 : addr + (e - addr) = e := by omega
  rw [midOf, den_absorb_lo _ _ _ _ _ _ _ ha1, e1]
  by_cases hlo : a < addr
  · rw [if_pos hlo, if_neg (by omega), if_pos hlo]
  · rw [if_neg hlo, if_neg hlo, den_absorb_hi _ _ _ _ _ _ (by omega), e2]
    by_cases hhi : a ≤ e
    · rw [if_pos hhi, if_pos ⟨by omega, hhi⟩]
    · rw [if_neg hhi, if_neg (fun h => hhi h.2)]

section PlanSpec
variable {P T' S : Map} {f l : Range} {T : Map} {addr : Nat} {r : Range} {p : Plan}

theorem newMap_eq (h : PlanSpec P T' S f l T addr r p) :
    newMap P S f l r addr p
      = P ++ midOf (total P) addr (addr + r.endoff) (total P + total (f :: T) - 1)
          f.meth l.meth r.meth ++ S := by
  have hlo1 := h.lo1
  have hhi1 := h.hi1
  have htot := h.tot
  have hguard := h.guard
  have hB : (if p.raddr ≠ addr then [(⟨(addr + W - p.raddr + W - 1) % W, f.meth⟩ : Range)] else [])
      = if f.meth = r.meth then [] else runOf (addr - total P) f.meth := by
    rw [h.raddr]
    by_cases hf : f.meth = r.meth
    · simp only [hf, if_true, ne_eq, not_true, if_false]
    · simp only [hf, if_false, ne_comm (a := total P)]
      exact runOf_wrap hlo1 (by omega) f.meth
  have hE : (if p.rend ≠ addr + r.endoff
        then [(⟨(p.rend + W - (addr + r.endoff) + W - 1) % W, l.meth⟩ : Range)] else [])
      = if l.meth = r.meth then []
        else runOf (total P + total (f :: T) - 1 - (addr + r.endoff)) l.meth := by
    rw [h.rend]
    by_cases hl : l.meth = r.meth
    · simp only [hl, if_true, ne_eq, not_true, if_false]
    · simp only [hl, if_false]
      exact runOf_wrap (by omega) (by omega) l.meth
  have hN : (r.endoff + p.extend) % W
      = (if f.meth = r.meth then addr - total P else 0) + (addr + r.endoff - addr
          + (if l.meth = r.meth then total P + total (f :: T) - 1 - (addr + r.endoff) else 0)) := by
    rw [h.extend, Nat.mod_eq_of_lt]
    · omega
    · (repeat' split) <;> omega
  unfold newMap midOf
  rw [Nat.mod_eq_of_lt hguard, hB, hE, hN]
  simp only [List.append_assoc, List.cons_append, List.nil_append]

theorem den_app3 (P M S : Map) (a : Nat) :
    den (P ++ M ++ S) 0 a = if a < total P then den P 0 a
      else if a < total P + total M then den M (total P) a else den S (total P + total M) a := by
  rw [List.append_assoc, den_append _ _ _ _ (Nat.zero_le _)]
  simp only [Nat.zero_add]
  split
  · rfl
  · rw [den_append _ _ _ _ (by omega)]

theorem newMap_sem (h : PlanSpec P T' S f l T addr r p) :
    total (newMap P S f l r addr p) = W ∧
    ∀ a, den (newMap P S f l r addr p) 0 a
      = if addr ≤ a ∧ a ≤ addr + r.endoff then r.meth else den (P ++ f :: T ++ S) 0 a := by
  rw [newMap_eq h]
  have hlo1 := h.lo1
  have hlo2 := h.lo2
  have hhi1 := h.hi1
  have hhi2 := h.hi2
  have htot := h.tot
  have htT' : total (f :: T) = total T' + l.endoff + 1 := by rw [h.shape]; simp; omega
  have hMt := midOf_total (total P) addr (addr + r.endoff) (total P + total (f :: T) - 1)
    f.meth l.meth r.meth hlo1 (by omega) (by omega)
  have hMt' : total (midOf (total P) addr (addr + r.endoff) (total P + total (f :: T) - 1)
    f.meth l.meth r.meth) = total (f :: T) := by omega
  refine ⟨by simp only [total_append, hMt']; omega, fun a => ?_⟩
  rw [den_app3, den_app3, hMt']
  by_cases h1 : a < total P
  · rw [if_pos h1, if_pos h1, if_neg (by omega)]
  · rw [if_neg h1, if_neg h1]
    by_cases h2 : a < total P + total (f :: T)
    · rw [if_pos h2, if_pos h2, midOf_den _ _ _ _ _ _ _ hlo1 (by omega) (by omega) a (by omega) (by omega)]
      split
      · rfl
      · split
        · rw [den, if_pos (by omega)]
        · rw [h.shape, den_append _ _ _ _ (by omega), if_neg (by omega), den, if_pos (by omega)]
    · rw [if_neg h2, if_neg h2, if_neg (by omega)]

theorem PlanSpec.neg_le_delta (h : PlanSpec P T' S f l T addr r p) : -(T'.length : Int) ≤ p.delta := by
  rw [h.delta]; split <;> split <;> omega

theorem PlanSpec.applyPlan_ok (h : PlanSpec P T' S f l T addr r p) (G : Map) (hG : G.length = p.delta.toNat) :
    applyPlan (P ++ f :: T ++ S ++ G) (P ++ f :: T ++ S).length p addr r
      = (.ok, newMap P S f l r addr p) := by
  have hlen : (P ++ f :: T ++ S).length = P.length + T'.length + 1 + S.length := by
    have := congrArg List.length h.shape
    simp only [List.length_cons, List.length_append, List.length_nil] at this ⊢
    omega
  have hdelta : p.delta = (((if p.raddr ≠ addr then 1 else 0)
      + (if p.rend ≠ (addr + r.endoff) % W then 1 else 0) : Nat) : Int) - T'.length := by
    rw [h.delta, Nat.mod_eq_of_lt h.guard]; push_cast; (repeat' split) <;> rfl
  obtain ⟨A', C, hk, hhead, hmv⟩ := moved_spec P T' S G f l T p _ h.shape h.li h.left hdelta hG
  rw [hlen, applyPlan_eq, hmv]
  dsimp only
  rw [← hk]
  refine applyWrites_spec _ P A' S C f l p addr r h.fi hk fun hb => hhead ?_
  rw [if_pos hb]; omega

end PlanSpec

/-- The plan of the empty-map branch and the `delta` before the allocation. -/
def emptyPlan (addr : Nat) (r : Range) : Plan × Int :=
  let end_ := (addr + r.endoff) % W
  let (extend, raddr, rend) :=
    if r.meth = NONE then ((ADDR_MAX + W - (end_ + W - addr) % W) % W, addr, end_)
    else (0, 0, ADDR_MAX)
  let d1 : Int := if addr = raddr then 2 else 3
  let delta : Int := if rend = end_ then d1 - 1 else d1
  (⟨0, 0, 1, raddr, rend, extend, delta - 1⟩, delta)

theorem mapSet_nil (addr : Nat) (r : Range) (ok : Bool) :
    mapSet [] addr r ok =
      if (emptyPlan addr r).2 > 0 then
        (if !ok then (.nomem, [])
         else applyPlan (⟨ADDR_MAX, NONE⟩ :: List.replicate ((emptyPlan addr r).2.toNat - 1) garbage)
            1 (emptyPlan addr r).1 addr r)
      else (.oob, []) := by
  unfold mapSet emptyPlan
  by_cases h : r.meth = NONE <;> simp only [h, if_true, if_false] <;> rfl

theorem mapSet_ne (m : Map) (hne : m ≠ []) (addr : Nat) (r : Range) (ok : Bool) :
    mapSet m addr r ok =
      match planNonEmpty m addr r with
      | none => (.oob, m)
      | some p =>
        if p.delta > 0 then
          (if !ok then (.nomem, m)
           else applyPlan (m ++ List.replicate p.delta.toNat garbage) m.length p addr r)
        else applyPlan m m.length p addr r := by
  cases m with
  | nil => exact absurd rfl hne
  | cons x xs => rfl

theorem mapSet_nomem (m : Map) (addr : Nat) (r : Range) :
    mapSet m addr r false = (.nomem, m) ∨ mapSet m addr r false = mapSet m addr r true := by
  by_cases hne : m = []
  · subst hne
    rw [mapSet_nil, mapSet_nil]
    by_cases h : (emptyPlan addr r).2 > 0
    · left; simp only [h, if_true]; rfl
    · right; simp only [h, if_false]
  · rw [mapSet_ne m hne, mapSet_ne m hne]
    cases planNonEmpty m addr r with
    | none => right; rfl
    | some p =>
      by_cases h : p.delta > 0
      · left; simp only [h, if_true]; rfl
      · right; simp only [h, if_false]

/-- The never-set map is planned as the map `[⟨ADDR_MAX, NONE⟩]` it stands for. -/
theorem emptyPlan_eq (addr : Nat) (r : Range) (hr : addr + r.endoff < W) :
    emptyPlan addr r =
      (finishPlan addr r 0 0 ⟨ADDR_MAX, NONE⟩ 0 1 ADDR_MAX 2 ⟨ADDR_MAX, NONE⟩,
       (finishPlan addr r 0 0 ⟨ADDR_MAX, NONE⟩ 0 1 ADDR_MAX 2 ⟨ADDR_MAX, NONE⟩).delta + 1) := by
  have hW : 0 < W := Nat.two_pow_pos 64
  have hA : ADDR_MAX = W - 1 := rfl
  rw [finishPlan_eq addr r 0 0 ⟨ADDR_MAX, NONE⟩ 0 1 ADDR_MAX 2 ⟨ADDR_MAX, NONE⟩ hr (Nat.zero_le _)
    (by omega) (by omega)]
  have e1 : (addr + r.endoff + W - addr) % W = r.endoff := by
    rw [add_sub_mod (by omega) hr]; omega
  have e2 : (ADDR_MAX + W - r.endoff) % W = ADDR_MAX - r.endoff := add_sub_mod (by omega) (by omega)
  simp only [emptyPlan, Nat.mod_eq_of_lt hr, e1, e2, delta_count 3 2 rfl]
  by_cases h : r.meth = NONE
  · simp only [h, if_true, Prod.mk.injEq, Plan.mk.injEq, true_and]
    omega
  · have h' : ¬ NONE = r.meth := fun e => h e.symm
    simp only [h, h', if_false, Prod.mk.injEq, Plan.mk.injEq, true_and]
    omega

theorem emptyPlan_spec (addr : Nat) (r : Range) (hr : addr + r.endoff < W) :
    PlanSpec [] [] [] ⟨ADDR_MAX, NONE⟩ ⟨ADDR_MAX, NONE⟩ [] addr r (emptyPlan addr r).1 ∧
    (emptyPlan addr r).2 = (emptyPlan addr r).1.delta + 1 := by
  have hW : 0 < W := Nat.two_pow_pos 64
  have hA : ADDR_MAX = W - 1 := rfl
  have ht : total [(⟨ADDR_MAX, NONE⟩ : Range)] = ADDR_MAX + 1 + 0 := rfl
  rw [emptyPlan_eq addr r hr]
  exact ⟨finishPlan_spec (P := []) (T' := []) (S := []) (T := []) rfl hr (Nat.zero_le _)
    (by simp only [total_nil]; omega) (by rw [ht, total_nil]; omega) (by simp only [total_nil]; omega)
    (by rw [ht, total_nil]; omega), rfl⟩

/-- Main characterisation of a guarded `set` with a succeeding allocator: the map
(or, for the never-set map, the single `NONE` range it stands for) decomposes as
`P ++ f :: T ++ S`, and the result is `newMap` for a plan satisfying `PlanSpec`. -/
theorem mapSet_spec (m : Map) (h : WF m) (addr : Nat) (r : Range) (hr : addr + r.endoff < W) :
    ∃ P T' S f l T p, (∀ a, den (P ++ f :: T ++ S) 0 a = den m 0 a) ∧
      PlanSpec P T' S f l T addr r p ∧
      mapSet m addr r true = (.ok, newMap P S f l r addr p) := by
  by_cases hne : m = []
  · subst hne
    obtain ⟨hps, hd⟩ := emptyPlan_spec addr r hr
    have hge : 0 ≤ (emptyPlan addr r).1.delta := hps.neg_le_delta
    refine ⟨[], [], [], ⟨ADDR_MAX, NONE⟩, ⟨ADDR_MAX, NONE⟩, [], (emptyPlan addr r).1, ?_, hps, ?_⟩
    · intro a; simp [den]
    · rw [mapSet_nil, if_pos (by omega)]
      have := hps.applyPlan_ok (List.replicate ((emptyPlan addr r).2.toNat - 1) garbage)
        (by simp only [List.length_replicate]; omega)
      simpa using this
  · have hW : total m = W := h.resolve_left hne
    obtain ⟨P, T', S, f, l, T, p, hm, hplan, hps⟩ := planNonEmpty_spec m hW addr r hr
    refine ⟨P, T', S, f, l, T, p, by rw [hm]; intro a; rfl, hps, ?_⟩
    rw [mapSet_ne m hne, hplan]
    dsimp only
    subst hm
    by_cases hd : p.delta > 0
    · rw [if_pos hd]
      exact hps.applyPlan_ok _ (by simp)
    · rw [if_neg hd]
      have := hps.applyPlan_ok [] (by simp only [List.length_nil]; omega)
      rw [List.append_nil] at this
      exact this

theorem mapSearch_eq_den (m : Map) (h : WF m) (a : Nat) : mapSearch m a = den m 0 a := by
  rcases h with rfl | h
  · rfl
  · exact searchFrom_eq_den m 0 a (by omega)

/-- A guarded `set` with a succeeding allocator: status, shape and function view of the result. -/
theorem mapSet_ok (m : Map) (h : WF m) (addr : Nat) (r : Range) (hr : addr + r.endoff < W) :
    (mapSet m addr r true).1 = .ok ∧ (mapSet m addr r true).2 ≠ [] ∧
      total (mapSet m addr r true).2 = W ∧
      ∀ a, den (mapSet m addr r true).2 0 a
        = if addr ≤ a ∧ a ≤ addr + r.endoff then r.meth else den m 0 a := by
  obtain ⟨P, T', S, f, l, T, p, hden, hps, hset⟩ := mapSet_spec m h addr r hr
  have ht := (newMap_sem hps).1
  rw [hset]
  refine ⟨rfl, fun e => ?_, ht, fun a => by rw [← hden a]; exact (newMap_sem hps).2 a⟩
  have e' : newMap P S f l r addr p = [] := e
  rw [e'] at ht
  exact Nat.ne_of_lt (Nat.two_pow_pos 64) ht

theorem mapSet_eq_ok {m : Map} (h : WF m) (addr : Nat) (r : Range) (hr : addr + r.endoff < W) :
    mapSet m addr r true = (.ok, (mapSet m addr r true).2) :=
  Prod.ext (mapSet_ok m h addr r hr).1 rfl

theorem mapSet_wf {m : Map} (h : WF m) (addr : Nat) (r : Range) (hr : addr + r.endoff < W) :
    WF (mapSet m addr r true).2 := by
  obtain ⟨-, -, ht, -⟩ := mapSet_ok m h addr r hr
  exact Or.inr ht

theorem mapSearch_set {m : Map} (h : WF m) (addr : Nat) (r : Range) (hr : addr + r.endoff < W)
    (a : Nat) :
    mapSearch (mapSet m addr r true).2 a =
      if addr ≤ a ∧ a ≤ addr + r.endoff then r.meth else mapSearch m a := by
  obtain ⟨-, -, -, hd⟩ := mapSet_ok m h addr r hr
  rw [mapSearch_eq_den _ (mapSet_wf h addr r hr), hd, mapSearch_eq_den m h]

/-- A call that reports `ok` did not depend on the allocator. -/
theorem mapSet_false_ok {m : Map} {addr : Nat} {r : Range} {alloc : Bool} {m' : Map}
    (h : mapSet m addr r alloc = (.ok, m')) : mapSet m addr r true = (.ok, m') := by
  cases alloc with
  | true => exact h
  | false =>
    rcases mapSet_nomem m addr r with e | e
    · rw [e] at h; cases h
    · rw [← e]; exact h

end Kdf.Lemmas.Map
