import Kdf.Model.Hist
import Kdf.Lemmas.Cache
import Kdf.Lemmas.CacheStep
import Kdf.Lemmas.Pfn
import Kdf.Lemmas.HistFetch
import Kdf.Lemmas.HistRead
import Kdf.Lemmas.HistElf
import Kdf.Lemmas.HistLkcd
import Kdf.Lemmas.HistFc
/-!
# C04 — caching and lazy indexing are invisible

The property theorems, proved from the lemmas of `Kdf/Lemmas/Hist*.lean`.  Every statement
is over all histories / all states satisfying the invariant, without bounds.
-/
namespace Kdf.Props.C04
open Kdf.Model.Cache Kdf.Model.Hist Kdf.Lemmas.Cache Kdf.Model.Pfn Kdf.Lemmas.Pfn Kdf.Lemmas.Hist

/-! ## 1. The page cache composed with a deterministic fill function

Two clauses of the predicates `PInv` and `QInv` are there for a reason that a counterexample at
the end of the section witnesses:

* `PInv` contains `s.c.cap ≤ s.buf.length` (every buffer of the cache exists).  Without it
  `fetch_spec`/`getPage_spec`/`hrun_inv` are false: `List.set` beyond the end of `buf` is a
  no-op, so a fill into a missing buffer leaves a valid entry whose buffer was never filled
  (`pinv_needs_buf_counterexample`).
* `hrun_inv` is stated for `QInv` (`PInv` and nothing in flight — the state between two calls
  of a single-threaded history).  With an entry in flight, `unpin` of that entry drops its only
  reference with `cache_put_entry` and breaks C06's invariant (`hrun_inv_needs_F_counterexample`,
  the same defect as C06's `inv_step_counterexample`).
-/

theorem pinv_init {V E : Type} (f : Nat → Except E V) (cap : Nat) (h : 0 < cap) :
    PInv f (PCache.init (V := V) cap) :=
  ⟨(inv_iff _).2 (invS_flush cap h True), Nat.le_of_eq List.length_replicate.symm,
    fun _ hi => nomatch (hi : _ ∈ ([] : List Nat))⟩

theorem qinv_init {V E : Type} (f : Nat → Except E V) (cap : Nat) (h : 0 < cap) :
    QInv f (PCache.init (V := V) cap) := ⟨pinv_init f cap h, rfl⟩

/-- `cache_get_page` in any state satisfying the invariant: it succeeds (no `ub`,
no `proto`), re-establishes the invariant, is refused exactly by the busy rule
(changing nothing), and otherwise delivers exactly what `f` delivers for the key. -/
theorem fetch_spec {V E : Type} (f : Nat → Except E V) (s : PCache V) (k : Nat) (h : PInv f s) :
    ∃ s' o, fetch f s k = .ok (s', o) ∧ PInv f s' ∧ s'.c.cap = s.c.cap ∧
      ((o = .busy) ↔ BusyRule s.c k) ∧
      match o with
      | .busy => s' = s
      | .got i v => f k = .ok v ∧ i ∈ cached s'.c ∧ s'.c.refcnt i ≠ 0
      | .fail e => f k = .error e := by
  obtain ⟨s', o, h1, hs⟩ := fetch_full f s k h
  exact ⟨s', o, h1, hs.inv, hs.cap, hs.busy_iff, by cases o <;> exact hs.post⟩

/-- releasing a reference obtained from `fetch` keeps the invariant -/
theorem release_spec {V E : Type} (f : Nat → Except E V) (s : PCache V) (i : Nat) (h : PInv f s)
    (hi : i ∈ cached s.c) (hr : s.c.refcnt i ≠ 0) :
    ∃ s', release s i = .ok s' ∧ PInv f s' ∧ s'.c.cap = s.c.cap := by
  obtain ⟨s', h1, h2, h3, -⟩ := release_full f s i h hr
    (fun hF => absurd hi (not_cached_of_inflight ((inv_iff _).1 h.1) hF))
  exact ⟨s', h1, h2, h3⟩

theorem getPage_spec {V E : Type} (f : Nat → Except E V) (s : PCache V) (k : Nat) (h : PInv f s) :
    ∃ s' r, getPage f s k = .ok (s', r) ∧ PInv f s' ∧
      ((r = .busy) ↔ BusyRule s.c k) ∧ (r ≠ .busy → r = Res.ofExcept (f k)) := by
  obtain ⟨s', r, h1, hs⟩ := getPage_full f s k h
  exact ⟨s', r, h1, hs.inv, hs.busy_iff, hs.answer⟩

theorem hstep_qinv {V E : Type} (f : Nat → Except E V) (s s' : PCache V) (op : HOp) (h : QInv f s)
    (hs : hstep f s op = .ok s') : QInv f s' := by
  obtain ⟨hP, hF0⟩ := h
  cases op with
  | read k =>
    obtain ⟨s1, r, hgp, h1⟩ := getPage_full f s k hP
    simp only [hstep, hgp, Except.map, Except.ok.injEq] at hs
    exact hs ▸ ⟨h1.inv, (h1.quiet hF0).1⟩
  | pin k =>
    obtain ⟨s1, o, hfe, h1⟩ := fetch_full f s k hP
    simp only [hstep, hfe, Except.map, Except.ok.injEq] at hs
    subst hs
    refine ⟨h1.inv, ?_⟩
    cases o with
    | busy => exact (h1.post : s1 = s) ▸ hF0
    | got i v => exact (h1.quiet hF0).1
    | fail e => exact (h1.quiet hF0).1
  | unpin e =>
    have hs' : release s e = .ok s' := hs
    obtain ⟨s2, hrel, hP2, -, hF2, -⟩ := release_full f s e hP (release_ref hs') (fun hm => nomatch hF0 ▸ hm)
    cases hrel.symm.trans hs'
    exact ⟨hP2, hF2.trans hF0⟩
  | resize cap =>
    obtain ⟨hc, rfl⟩ := hstep_resize hs
    exact qinv_init f cap hc

/-- every history (reads, pins, unpins, cache resizes) that the model accepts, started
between two calls (nothing in flight), leads to such a state satisfying the invariant -/
theorem hrun_inv {V E : Type} (f : Nat → Except E V) (s s' : PCache V) (ops : List HOp)
    (h : QInv f s) (hr : hrun f s ops = .ok s') : QInv f s' :=
  hrun_ind f (P := fun s _ => QInv f s) (fun s s' op _ h hs => hstep_qinv f s s' op h hs) ops s s' h hr

/-- **Cache transparency.**  After ANY history on a cache of ANY capacity, a page
access for key `k` yields `f k` — or `busy`, exactly when C06's busy rule says so. -/
theorem cache_transparent {V E : Type} (f : Nat → Except E V) (cap : Nat) (hc : 0 < cap)
    (ops : List HOp) (s : PCache V) (hr : hrun f (PCache.init cap) ops = .ok s) (k : Nat) :
    ∃ s' r, getPage f s k = .ok (s', r) ∧
      ((r = .busy) ↔ BusyRule s.c k) ∧ (r ≠ .busy → r = Res.ofExcept (f k)) := by
  obtain ⟨s', r, h1, -, h3, h4⟩ := getPage_spec f s k (hrun_inv f _ s ops (qinv_init f cap hc) hr).1
  exact ⟨s', r, h1, h3, h4⟩

/-- a freshly allocated cache of any capacity answers with `f k` -/
theorem fresh_answer {V E : Type} (f : Nat → Except E V) (cap : Nat) (hc : 0 < cap) (k : Nat) :
    ∃ s', getPage f (PCache.init (V := V) cap) k = .ok (s', Res.ofExcept (f k)) :=
  getPage_noRef f _ k (qinv_init f cap hc) (noRef_init cap)

/-- the answer after any history equals the answer of a fresh cache of any other
capacity, unless the busy rule refuses it -/
theorem history_irrelevant {V E : Type} (f : Nat → Except E V) (cap cap' : Nat) (hc : 0 < cap)
    (hc' : 0 < cap') (ops : List HOp) (s : PCache V) (hr : hrun f (PCache.init cap) ops = .ok s)
    (k : Nat) :
    ∃ s1 r1 s2 r2, getPage f s k = .ok (s1, r1) ∧ getPage f (PCache.init (V := V) cap') k = .ok (s2, r2) ∧
      (r1 = r2 ∨ (r1 = .busy ∧ BusyRule s.c k)) := by
  obtain ⟨s1, r1, h1, hb, hv⟩ := cache_transparent f cap hc ops s hr k
  obtain ⟨s2, h2⟩ := fresh_answer (V := V) f cap' hc' k
  refine ⟨s1, r1, s2, _, h1, h2, ?_⟩
  by_cases hbusy : r1 = .busy
  · exact Or.inr ⟨hbusy, hb.1 hbusy⟩
  · exact Or.inl (hv hbusy)

/-- only complete accesses and resizes: no reference is kept -/
def noPins : List HOp → Prop
  | [] => True
  | .read _ :: ops => noPins ops
  | .resize _ :: ops => noPins ops
  | _ :: _ => False

/-- histories without outstanding pins are never refused: the answer is exactly `f k` -/
theorem reads_only_transparent {V E : Type} (f : Nat → Except E V) (cap : Nat) (hc : 0 < cap)
    (ops : List HOp) (hp : noPins ops) (s : PCache V) (hr : hrun f (PCache.init cap) ops = .ok s)
    (k : Nat) :
    ∃ s', getPage f s k = .ok (s', Res.ofExcept (f k)) := by
  have key := hrun_ind f (P := fun s ops => (QInv f s ∧ NoRef s) ∧ noPins ops)
    (fun s s' op ops h hs => by
      have hq := hstep_qinv f s s' op h.1.1 hs
      cases op with
      | read k => exact ⟨⟨hq, read_noRef f h.1.1 h.1.2 hs⟩, h.2⟩
      | resize cap => exact ⟨⟨hq, (hstep_resize hs).2 ▸ noRef_init cap⟩, h.2⟩
      | pin k => exact h.2.elim
      | unpin e => exact h.2.elim)
    ops _ s ⟨⟨qinv_init f cap hc, noRef_init cap⟩, hp⟩ hr
  exact getPage_noRef f s k key.1.1 key.1.2

/-- Why `PInv` demands that the buffers exist: from a state satisfying the other two conjuncts
but without buffers, two reads of the same key end in the `ub` arm "valid entry whose buffer
was never filled". -/
theorem pinv_needs_buf_counterexample :
    ∃ (s : PCache Nat) (w : String), Inv s.c ∧ Coh (E := Unit) (fun k => .ok k) s ∧
      hrun (E := Unit) (fun k => .ok k) s [.read 5, .read 5] = .error (.ub w) := by
  refine ⟨⟨flush 1, []⟩, _, (inv_iff _).2 (invS_flush 1 (by decide) True), ?_, rfl⟩
  intro i hi
  have : i ∈ ([] : List Nat) := hi
  cases this

/-- Why `hrun_inv` starts between two calls: with an entry in flight (capacity 1, one miss),
`unpin` of that entry is accepted and breaks the invariant. -/
theorem hrun_inv_needs_F_counterexample :
    ∃ (s s' : PCache Nat), PInv (E := Unit) (fun k => .ok k) s ∧
      hrun (E := Unit) (fun k => .ok k) s [.unpin 0] = .ok s' ∧
      ¬ PInv (E := Unit) (fun k => .ok k) s' := by
  let c : Cache :=
    { cap := 1, ents := [⟨5, .probe, 1, some 0⟩, ⟨0, .probe, 0, none⟩], U := [1], GB := [], B := [],
      P := [], GP := [], F := [0], dprobe := 0, hits := 0, misses := 1 }
  have hs : step (flush 1) (.get 5) = .ok (c, .entry 0 false) := rfl
  have hc : Inv c := (inv_iff _).2 (step_spec (invS_flush 1 (by decide) True) hs (fun _ => trivial)).1
  exact ⟨⟨c, [none]⟩, ⟨decref c 0, [none]⟩, ⟨hc, Nat.le_refl 1, fun i hi => nomatch hi⟩, rfl,
    fun hI => hI.1.inflight_ref 0 (List.mem_singleton_self 0) rfl⟩

/-- the page cache consults `f` only at the requested key -/
theorem getPage_congr {V E : Type} (f f' : Nat → Except E V) (s : PCache V) (k : Nat) (h : f k = f' k) :
    getPage f s k = getPage f' s k := by
  unfold getPage fetch
  rw [h]

/-- … so the cache may be coherent with another fill function that agrees at the key -/
theorem getPage_spec_at {V E : Type} (f f' : Nat → Except E V) (s : PCache V) (k : Nat) (h : PInv f s)
    (hk : f' k = f k) :
    ∃ s' r, getPage f' s k = .ok (s', r) ∧ PInv f s' ∧
      ((r = .busy) ↔ BusyRule s.c k) ∧ (r ≠ .busy → r = Res.ofExcept (f' k)) := by
  rw [getPage_congr f' f s k hk, hk]
  exact getPage_spec f s k h

/-- **`file.zero_excluded` may be toggled at any point of a history.**  The cache
stays coherent with the zero-filling fill function; the guarded access delivers
what the fill function of the CURRENT setting delivers (or `busy` by the busy rule),
whatever was cached under the other setting. -/
theorem zero_excluded_transparent {V E : Type} (base : Nat → Except E V) (g : Nat → Option E) (zero : V)
    (s : PCache V) (h : PInv (fillZx base g zero true) s) (zx : Bool) (k : Nat) :
    ∃ s' r, guardedGet base g zero zx s k = .ok (s', r) ∧ PInv (fillZx base g zero true) s' ∧
      (r ≠ .busy → r = Res.ofExcept (fillZx base g zero zx k)) ∧ (r = .busy → BusyRule s.c k) := by
  unfold guardedGet
  cases zx with
  | true =>
    obtain ⟨s', r, h1, h2, h3, h4⟩ := getPage_spec _ s k h
    exact ⟨s', r, h1, h2, h4, h3.1⟩
  | false =>
    cases hg : g k with
    | some e =>
      refine ⟨s, .fail e, rfl, h, fun _ => ?_, nofun⟩
      rw [fillZx, hg]; rfl
    | none =>
      obtain ⟨s', r, h1, h2, h3, h4⟩ :=
        getPage_spec_at _ (fillZx base g zero false) s k h (by simp only [fillZx, hg])
      exact ⟨s', r, h1, h2, h4, h3.1⟩

/-! ## 2. The four-slot read cache of libaddrxlat -/

theorem rinv_init {V E : Type} (g : Nat → Nat → Except E (Buffer V)) : RInv g (RCache.init (V := V)) := by
  refine ⟨List.length_replicate, List.Perm.refl _, ?_⟩
  intro s hs hne
  have := List.eq_of_mem_replicate hs
  subst this
  exact absurd rfl hne

/-- one lookup in any state satisfying the invariant returns exactly what the
callback returns for that address (buffer or status), and keeps the invariant -/
theorem getCacheBuf_spec {V E : Type} (g : Nat → Nat → Except E (Buffer V)) (hg : GCoh g)
    (rc : RCache V) (h : RInv g rc) (as a : Nat) (ha : a < W) :
    (getCacheBuf g rc as a).2.2 = (match g as a with | .ok b => .ok b | .error e => .error (.cb e)) ∧
    RInv g (getCacheBuf g rc as a).1 := by
  obtain ⟨hlen, hperm, hslots⟩ := h
  cases hf : rc.find as a with
  | some i =>
    obtain ⟨hi, s, hs, hcov⟩ := rcache_find_some hf
    rw [covers_iff] at hcov
    obtain ⟨hc1, hc2⟩ := hcov
    have hmem : s ∈ rc.slots := List.mem_of_getElem? hs
    obtain ⟨hsa, v, hv, hgs⟩ := hslots s hmem (by omega)
    have hga : g as a = .ok ⟨s.addr, s.size, v⟩ := by
      rw [← hc2]
      exact (hg s.as s.addr _ hsa hgs).2.2 a ha hc1
    rw [getCacheBuf_hit g rc hf hs hv, hga]
    exact ⟨rfl, hlen, touch_perm hperm (by omega), hslots⟩
  | none =>
    have hne : rc.order ≠ [] := by
      intro e
      have := hperm.length_eq
      rw [e] at this
      simp [nslots] at this
    cases hl : rc.order.getLast? with
    | none => exact absurd (List.getLast?_eq_none_iff.mp hl) hne
    | some l =>
      have hl4 : l < nslots := (order_mem_iff hperm).mp (List.mem_of_getLast? hl)
      have hll : l < rc.slots.length := by omega
      have hs : rc.slots[l]? = some rc.slots[l] := List.getElem?_eq_getElem hll
      cases hga : g as a with
      | ok b =>
        rw [getCacheBuf_miss_ok g rc hf hl hs hga]
        refine ⟨rfl, ?_, touch_perm hperm hl4, ?_⟩
        · simp only [List.length_set]; exact hlen
        · obtain ⟨hb1, hb2, hb3⟩ := hg as a b ha hga
          refine forall_mem_set hslots (fun _ => ⟨hb1, b.data, rfl, ?_⟩) l
          show g as b.addr = .ok b
          apply hb3 b.addr hb1
          -- the start address of a buffer is covered by it: offset 0
          rw [Nat.mod_eq_of_lt hb1, Nat.add_sub_cancel_left, Nat.mod_self]
          omega
      | error e =>
        rw [getCacheBuf_miss_err g rc hf hl hs hga]
        refine ⟨rfl, ?_, hperm, ?_⟩
        · simp only [List.length_set]; exact hlen
        · exact forall_mem_set hslots (fun h0 => absurd rfl h0) l

theorem bury_spec {V E : Type} (g : Nat → Nat → Except E (Buffer V)) (rc : RCache V) (h : RInv g rc)
    (as a : Nat) : RInv g (bury rc as a) := by
  obtain ⟨hlen, hperm, hslots⟩ := h
  unfold bury
  cases hf : rc.find as a with
  | none => exact ⟨hlen, hperm, hslots⟩
  | some i =>
    have hi := (rcache_find_some hf).1
    exact ⟨hlen, buryOrd_perm hperm (by omega), hslots⟩

theorem rrun_inv {V E : Type} (g : Nat → Nat → Except E (Buffer V)) (hg : GCoh g) (ops : List ROp) :
    ∀ rc, RInv g rc → (∀ op ∈ ops, opWf op) → RInv g (rrun g rc ops) := by
  induction ops with
  | nil => intro rc h _; exact h
  | cons op ops ih =>
    intro rc h hw
    unfold rrun
    rw [List.foldl_cons]
    apply ih _ _ (fun o ho => hw o (List.mem_cons_of_mem _ ho))
    have hop := hw op (List.mem_cons_self ..)
    cases op with
    | get as a => exact (getCacheBuf_spec g hg rc h as a hop).2
    | bury as a => exact bury_spec g rc h as a

/-- **Read-cache transparency.**  After any history of lookups and buries the
lookup of `(as, a)` returns what the callback returns. -/
theorem readcache_transparent {V E : Type} (g : Nat → Nat → Except E (Buffer V)) (hg : GCoh g)
    (ops : List ROp) (hw : ∀ op ∈ ops, opWf op) (as a : Nat) (ha : a < W) :
    (getCacheBuf g (rrun g RCache.init ops) as a).2.2 =
      (match g as a with | .ok b => .ok b | .error e => .error (.cb e)) :=
  (getCacheBuf_spec g hg _ (rrun_inv g hg ops _ (rinv_init g) hw) as a ha).1

/-! ## 3. The `last_load` shortcut of the ELF segment lookup -/

/-- If the shortcut is only enabled (`use_last_load`) for segments sorted by
start and not overlapping, the lookup returns the segment of the plain linear
search, whatever in-bounds pointer is remembered, and remembers an in-bounds
pointer. -/
theorem lastload_irrelevant (segs : List Seg) (useLast : Bool) (hs : useLast = true → SegsSorted segs)
    (last : Option Nat) (hl : ∀ l, last = some l → l < segs.length) (p d : Nat) :
    ∃ last', findClosestSC segs useLast last p d = some (findClosest segs p d, last') ∧
      ∀ l, last' = some l → l < segs.length :=
  findClosestSC_spec segs useLast hs last hl p d

/-- … hence after any history of lookups -/
theorem lastload_history (segs : List Seg) (useLast : Bool) (hs : useLast = true → SegsSorted segs)
    (qs : List (Nat × Nat)) (p d : Nat) :
    ∃ last last', lookupsSC segs useLast none qs = some last ∧
      findClosestSC segs useLast last p d = some (findClosest segs p d, last') := by
  obtain ⟨last, h1, h2⟩ := lookupsSC_spec segs useLast hs qs none (fun _ e => by cases e)
  obtain ⟨last', h3, _⟩ := findClosestSC_spec segs useLast hs last h2 p d
  exact ⟨last, last', h1, h3⟩

/-- The flag that `loads_disjoint` computes at open time implies the hypothesis,
both for the lookups by `memsz` and for the lookups by `filesz`. -/
theorem loadsDisjoint_sorted (ls : List Load) (h : loadsDisjoint ls 0 = true) :
    SegsSorted (ls.map fun l => ⟨l.start, l.memsz⟩) ∧
    SegsSorted (ls.map fun l => ⟨l.start, l.filesz⟩) :=
  loadsDisjoint_segs ls h

/-- The two together: the lookup, with the flag computed by `loads_disjoint`, never depends on
the remembered pointer. -/
theorem lastload_irrelevant_code (ls : List Load) (byFile : Bool) (last : Option Nat)
    (hl : ∀ l, last = some l → l < ls.length) (p d : Nat) :
    let segs : List Seg := ls.map fun l => ⟨l.start, if byFile then l.filesz else l.memsz⟩
    ∃ last', findClosestSC segs (loadsDisjoint ls 0) last p d = some (findClosest segs p d, last') :=
  findClosestSC_code ls byFile last hl p d

/-- The flag is needed: with the shortcut enabled on overlapping segments, the shortcut and
the linear search pick different segments. -/
theorem lastload_overlap_counterexample :
    ∃ segs last p d r, (∀ l, last = some l → l < segs.length) ∧
      findClosestSC segs true last p d = some r ∧ r.1 ≠ findClosest segs p d :=
  ⟨[⟨0, 0x2000⟩, ⟨0x1000, 0x2000⟩], some 1, 0x1000, 0x1000, (some 1, some 1), by decide, by decide, by decide⟩

/-- … and `loads_disjoint` detects exactly that layout -/
example : loadsDisjoint [⟨0, 0x2000, 0x2000⟩, ⟨0x1000, 0x2000, 0x2000⟩] 0 = false := by decide
example : loadsDisjoint [⟨0, 0x2000, 0x1000⟩, ⟨0x2000, 0x1000, 0x1000⟩] 0 = true := by decide

/-! ## 4. The lazily built LKCD index (contract level) -/

/-- the answer does not depend on how far the index is built -/
theorem lkcd_scan_irrelevant {D : Type} (descs : List (Nat × D)) (s : Lkcd) (h : LkInv descs s) (p : Nat) :
    (lkLookup descs s p).2 = (lkLookup descs ⟨0⟩ p).2 ∧ LkInv descs (lkLookup descs s p).1 := by
  obtain ⟨hpos, hnd⟩ := h
  have hsc := scan_prefix p s.pos hpos hnd (descs.length + 1 - s.pos)
  rw [Nat.add_sub_cancel' (Nat.le_succ_of_le hpos)] at hsc
  -- a fresh lookup is a scan from the start
  show _ = (scanFrom descs p 0 (descs.length + 1)).2 ∧ _
  unfold lkLookup
  cases hf : firstOf (descs.take s.pos) p with
  | some d => exact ⟨(hsc.1 d hf).symm, hpos, hnd⟩
  | none =>
    rw [hsc.2 hf]
    exact ⟨rfl, scanFrom_keeps_LkInv p _ s.pos ⟨hpos, hnd⟩ (by omega)⟩

theorem lkRun_inv {D : Type} (descs : List (Nat × D)) (ps : List Nat) :
    ∀ s, LkInv descs s → LkInv descs (lkRun descs s ps) := by
  induction ps with
  | nil => intro s h; exact h
  | cons p ps ih =>
    intro s h
    unfold lkRun
    rw [List.foldl_cons]
    exact ih _ (lkcd_scan_irrelevant descs s h p).2

/-- after any history of lookups the answer for frame `p` is the one a fresh scan gives -/
theorem lkcd_history {D : Type} (descs : List (Nat × D)) (ps : List Nat) (p : Nat) :
    (lkLookup descs (lkRun descs ⟨0⟩ ps) p).2 = (lkLookup descs ⟨0⟩ p).2 :=
  (lkcd_scan_irrelevant descs _ (lkRun_inv descs ps _ lkInv_init) p).1

/-- what a fresh scan answers for a stream without repeated frames: the first descriptor for `p` -/
theorem lkcd_fresh_spec {D : Type} (descs : List (Nat × D)) (hn : (descs.map (·.1)).Nodup) (p : Nat) :
    (lkLookup descs ⟨0⟩ p).2 = (match firstOf descs p with | some d => .found d | none => .notfound) := by
  have hsc := scan_prefix p descs.length (Nat.le_refl _) (by rw [List.take_length]; exact hn) 1
  rw [List.take_length] at hsc
  show (scanFrom descs p 0 (descs.length + 1)).2 = _
  cases hf : firstOf descs p with
  | some d => exact hsc.1 d hf
  | none => rw [hsc.2 hf, scanFrom_ge p 1 (Nat.le_refl _)]

/-! ## 5. mmap versus read -/

/-- below the end of the file every policy delivers the file's bytes -/
theorem policy_bytes (file : List Nat) (pgsz mmapsz pos n : Nat) (hpg : 0 < pgsz)
    (hmm : pgsz ∣ mmapsz) (hm0 : 0 < mmapsz) (hin : pos / pgsz * pgsz < file.length)
    (hn : n ≤ pgsz - pos % pgsz) (pol : Policy) :
    (fcacheGet file pgsz mmapsz pol pos).2.take n = some ((List.range n).map fun j => fileByte file (pos + j)) := by
  have hr := getRead_inside file pgsz pos hin
  have hm := getMmap_inside file pgsz mmapsz pos hin
  have hw := Nat.le_trans hn (page_rest_le_window pgsz mmapsz pos hpg hmm hm0)
  -- only `NEVER` takes the read path: the mmap path does not refuse
  cases pol with
  | never => simp only [fcacheGet, hr]; exact take_data hn
  | always => simp only [fcacheGet, hm]; exact take_data hw
  | try_ => simp only [fcacheGet, hm]; exact take_data hw
  | tryOnce => simp only [fcacheGet, hm]; exact take_data hw

/-- … hence all four policies deliver the same bytes -/
theorem policy_irrelevant (file : List Nat) (pgsz mmapsz pos n : Nat) (hpg : 0 < pgsz)
    (hmm : pgsz ∣ mmapsz) (hm0 : 0 < mmapsz) (hin : pos / pgsz * pgsz < file.length)
    (hn : n ≤ pgsz - pos % pgsz) (pol pol' : Policy) :
    (fcacheGet file pgsz mmapsz pol pos).2.take n = (fcacheGet file pgsz mmapsz pol' pos).2.take n := by
  rw [policy_bytes file pgsz mmapsz pos n hpg hmm hm0 hin hn pol,
    policy_bytes file pgsz mmapsz pos n hpg hmm hm0 hin hn pol']

/-- behind the end of the file every policy refuses alike (the read(2) path and the mmap path both answer
`KDUMP_ERR_EOF`), block 0 excepted -/
theorem policy_irrelevant_behind_eof (file : List Nat) (pgsz mmapsz pos : Nat) (h0 : 0 < pos / pgsz * pgsz)
    (hout : file.length ≤ pos / pgsz * pgsz) (pol pol' : Policy) :
    (fcacheGet file pgsz mmapsz pol pos).2 = (fcacheGet file pgsz mmapsz pol' pos).2 := by
  rw [fcacheGet_refused file pgsz mmapsz pos h0 hout pol, fcacheGet_refused file pgsz mmapsz pos h0 hout pol']

/-- The policies differ only at block 0 of an empty file (`ALWAYS` refuses, `NEVER` delivers zeroes): the
hypotheses `hin` / `h0` cannot be dropped. -/
theorem policy_eof_counterexample :
    ∃ file pgsz mmapsz pos, (fcacheGet file pgsz mmapsz .always pos).2 = .nodata ∧
      (fcacheGet file pgsz mmapsz .never pos).2 ≠ .nodata :=
  ⟨[], 4, 8, 1, by decide, by decide⟩

/-! ### Non-vacuity -/
example : ∃ s, hrun (E := Unit) (fun k => .ok (k + 100)) (PCache.init (V := Nat) 2)
    [.read 1, .read 2, .read 3, .pin 1, .read 4, .unpin 0, .resize 3, .read 1] = .ok s := ⟨_, rfl⟩
example : noPins [.read 1, .resize 2, .read 1] := trivial
example : SegsSorted [⟨0, 0x1000⟩, ⟨0x1000, 0x2000⟩, ⟨0x8000, 0⟩] := by unfold SegsSorted; decide
example : LkInv [(10, 'a'), (11, 'b'), (0, 'c'), (10, 'd')] ⟨3⟩ := by unfold LkInv; decide

end Kdf.Props.C04
