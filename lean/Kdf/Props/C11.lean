import Kdf.Lemmas.FlatScan
import Kdf.Lemmas.Split
/-!
# C11 — flattened and split packaging do not change what a dump contains

Flattened part.  `Parsed f p recs` is the format's own definition of the record
list of a flattened stream; `rearranged f recs` is the file makedumpfile would
have written had it been able to seek: all zero, then every record written in
stream order.  The theorems say that `flatmap_file_init` accepts exactly the
well-formed streams (inside `off_t`) and that, afterwards, both read functions
deliver `rearranged` for every position and length — any record sizes, any
order, overlapping rewrites, holes (zero), empty stream.

Split part.  The order in which the files of a split set are passed does not
change the sorted `pdmap[]` array (as file contents), every element still points
at its own file, and the file selected for a frame is the one whose window
contains it.
-/
namespace Kdf.Props.C11
open Kdf.Model.Map Kdf.Model.Flat Kdf.Lemmas.Map Kdf.Lemmas.Flat Kdf.Lemmas.Split

/-- the state in which `flatmap_file_init` enters its loop -/
def init : Scan := ⟨[], [], HDR⟩

theorem inv_init : Inv [] init :=
  ⟨Or.inl rfl, rfl, fun _ _ => rfl, nofun⟩

/-- **Reads of a flattened file return the rearranged file.**  If the scan of
the stream succeeds, the stream is a well-formed record list and
`flatmap_pread_flat` returns, for every position and length, exactly the bytes
of the rearranged file (zero where no record wrote). -/
theorem pread_flat_rearranged (f : File) (fuel : Nat) (s : Scan) (h : scan f fuel init = .ok s) :
    ∃ recs, Parsed f HDR recs ∧ ∀ pos len, pos + len ≤ W →
      preadFlat s.map s.offs f pos len = .ok ((List.range len).map fun i => rearranged f recs (pos + i)) := by
  obtain ⟨recs, hp, hi⟩ := scan_inv f fuel init s [] h inv_init
  exact ⟨recs, hp, preadFlat_inv f recs s hi⟩

/-- **Chunks of a flattened file are chunks of the rearranged file**: inside
one record, spanning records, inside a hole, in a stream without records.
`pos < W` matters for `len = 0` only: the C code indexes `offs[]` before it looks at `len`. -/
theorem get_chunk_rearranged (f : File) (fuel : Nat) (s : Scan) (h : scan f fuel init = .ok s) :
    ∃ recs, Parsed f HDR recs ∧ ∀ pos len, pos + len ≤ W → pos < W →
      ∃ b, getChunkFlat s.map s.offs f pos len =
        .ok (b, (List.range len).map fun i => rearranged f recs (pos + i)) := by
  obtain ⟨recs, hp, hi⟩ := scan_inv f fuel init s [] h inv_init
  exact ⟨recs, hp, getChunkFlat_inv f recs s hi⟩

/-- **Every well-formed stream is accepted** (any number, sizes and order of
records, overlaps and holes included), as long as it stays inside `off_t`. -/
theorem scan_accepts (f : File) (recs : List Rec) (hp : Parsed f HDR recs) (hf : Fits recs)
    (fuel : Nat) (hfuel : recs.length < fuel) :
    ∃ s, scan f fuel init = .ok s :=
  scan_complete f HDR recs hp fuel init rfl hf (Or.inl rfl) hfuel

/-- **The scan terminates**: on a file of `n` bytes the loop runs at most
`n + 2` times. -/
theorem scan_terminates (f : File) (n : Nat) (hz : ∀ i, n ≤ i → f i = 0) :
    scan f (n + 2) init ≠ .fuel :=
  Kdf.Lemmas.Flat.scan_terminates f n hz (n + 2) init (by omega) (Nat.le_add_left _ _)

/-- Positions the flattened stream never wrote read as zero. -/
theorem hole_reads_zero (f : File) (recs : List Rec) (p : Nat) (h : ∀ r ∈ recs, ¬ r.covers p) :
    rearranged f recs p = 0 := by
  unfold rearranged
  generalize 0 = a
  induction recs generalizing a with
  | nil => rfl
  | cons x xs ih =>
    rw [List.foldl_cons, if_neg (h x List.mem_cons_self)]
    exact ih (fun r hr => h r (List.mem_cons_of_mem _ hr)) a

/-- A later record overwrites everything before it. -/
theorem last_record_wins (f : File) (recs : List Rec) (r : Rec) (p : Nat) (h : r.covers p) :
    rearranged f (recs ++ [r]) p = f (r.dpos + (p - r.pos)) % 256 := by
  rw [rearranged_concat, if_pos h]

/-- A record that does not cover the position changes nothing there. -/
theorem other_record_keeps (f : File) (recs : List Rec) (r : Rec) (p : Nat) (h : ¬ r.covers p) :
    rearranged f (recs ++ [r]) p = rearranged f recs p := by
  rw [rearranged_concat, if_neg h]

/-! ### Split sets -/

/-- **The order of the files does not matter.**  For two orders of the same
files (distinct `end_pfn`), the descriptor lookup of every frame finds the same
file (as content) and the same position in it. -/
theorem split_order_irrelevant (bs1 bs2 : List Body) (hp : bs1.Perm bs2) (hd : DistinctEnds bs1)
    (maxPfn pfn : Nat) :
    (pdLookup (sortFiles (index bs1)) maxPfn pfn).map (fun r => (bs1[r.1]?, r.2)) =
    (pdLookup (sortFiles (index bs2)) maxPfn pfn).map (fun r => (bs2[r.1]?, r.2)) := by
  rw [pdLookup_sorted, pdLookup_sorted, sort_bodies_eq_of_perm bs1 bs2 hp hd]

/-- **The file selected for a frame is the one whose window contains it.** -/
theorem split_selects_window (l : List SFile)
    (hs : l.Pairwise (fun a b => a.endPfn ≤ b.startPfn)) (hw : ∀ m ∈ l, m.startPfn ≤ m.endPfn)
    (pfn : Nat) (m : SFile) :
    (findFile l pfn = some m ∧ m.startPfn ≤ pfn) ↔ (m ∈ l ∧ m.startPfn ≤ pfn ∧ pfn < m.endPfn) := by
  constructor
  · rintro ⟨h, hle⟩
    have hm := findFile_mem l pfn m h
    exact ⟨hm.1, hle, hm.2⟩
  · rintro ⟨hm, hle, hlt⟩
    refine ⟨?_, hle⟩
    -- every file before `m` in the array ends at or below the start of `m`, hence at or below `pfn`
    induction l with
    | nil => cases hm
    | cons a t ih =>
      rw [List.pairwise_cons] at hs
      rw [findFile]
      rcases List.mem_cons.mp hm with rfl | hm'
      · rw [if_pos hlt]
      · rw [if_neg (by have := hs.1 m hm'; omega)]
        exact ih hs.2 (fun x hx => hw x (List.mem_cons_of_mem _ hx)) hm'

/-- **A frame outside every window of the set is an excluded frame.**  For a set whose windows do not overlap (they need
not cover the frame space: files may be missing, the last window may end before `max_mapnr`), a frame below `maxPfn` that no
window contains is read as a page of zeroes when `file.zero_excluded` is on and as "no data" when it is off.
In particular the read never reaches a descriptor. -/
theorem split_uncovered_excluded (l : List SFile)
    (hs : l.Pairwise (fun a b => a.endPfn ≤ b.startPfn)) (hw : ∀ m ∈ l, m.startPfn ≤ m.endPfn)
    (maxPfn pfn : Nat) (hlt : pfn < maxPfn) (zx : Bool)
    (hout : ∀ m ∈ l, ¬ (m.startPfn ≤ pfn ∧ pfn < m.endPfn)) :
    readPageSrc l maxPfn zx pfn = if zx then .zero else .nodata := by
  have _ := hs
  have _ := hw
  have hnone : pdLookup l maxPfn pfn = none := by
    unfold pdLookup
    rw [if_neg (by omega)]
    cases hf : findFile l pfn with
    | none => rfl
    | some m =>
      have hm := findFile_mem l pfn m hf
      exact if_neg fun hle => hout m hm.1 ⟨hle, hm.2⟩
  unfold readPageSrc
  rw [if_neg (by omega), hnone]

/-- the option only matters for frames without a descriptor: a frame whose descriptor is found is read from it either way,
and nothing is ever delivered for a frame at or above `maxPfn` -/
theorem zero_excluded_only_excluded (l : List SFile) (maxPfn pfn : Nat) :
    (∀ fi pos, pdLookup l maxPfn pfn = some (fi, pos) → ∀ zx, readPageSrc l maxPfn zx pfn = .desc fi pos) ∧
    (maxPfn ≤ pfn → ∀ zx, readPageSrc l maxPfn zx pfn = .nodata) := by
  refine ⟨fun fi pos h zx => ?_, fun h zx => ?_⟩
  · have hlt : ¬ pfn ≥ maxPfn := by
      intro hge; unfold pdLookup at h; rw [if_pos hge] at h; cases h
    unfold readPageSrc
    rw [if_neg hlt, h]
  · unfold readPageSrc
    rw [if_pos h]

/-! ### a regular file has an end: `scanE` -/

/-- **the EOF rule only ever ends the scan early**: whatever `scanE` accepts, `scan` accepts with the same result, so
    every theorem above about an accepted stream (`pread_flat_rearranged`, `get_chunk_rearranged`, …) holds for `scanE`. -/
theorem scanE_ok_scan (f : File) (fsz : Nat) : ∀ (fuel : Nat) (s s' : Scan),
    scanE f fsz fuel s = .ok s' → scan f fuel s = .ok s' := by
  intro fuel
  induction fuel with
  | zero => intro s s' h; cases h
  | succ n ih =>
    intro s s' h
    rw [scanE_succ] at h
    rw [scan_succ]
    split at h
    · cases h
    · rcases stepK_ends_or_continues f s with ⟨r, _, hk⟩ | ⟨t, _, _, hk⟩
      · rw [hk] at h ⊢; exact h
      · rw [hk] at h ⊢; exact ih _ _ h

/-- **a file that contains every header the scan reads is scanned as before**: when no record header lies behind the
    end of the file, `scanE` is `scan`. -/
theorem scanE_eq_scan_of_no_eof (f : File) (fsz : Nat) (h : ∀ p, hdrBehindEof fsz p = false) :
    ∀ (fuel : Nat) (s : Scan), scanE f fsz fuel s = scan f fuel s := by
  intro fuel
  induction fuel with
  | zero => intro s; rfl
  | succ n ih =>
    intro s
    rw [scanE_succ, scan_succ, h s.flatpos, if_neg Bool.false_ne_true]
    exact congrArg (stepK f s) (funext ih)

/-- **a stream without end marker is refused**: a header behind the end of a regular file ends the scan with an error,
    never with an accepted map. -/
theorem scanE_eof_refused (f : File) (fsz fuel : Nat) (s : Scan) (h : hdrBehindEof fsz s.flatpos = true) :
    scanE f fsz (fuel + 1) s = .err .eof s.flatpos := by
  rw [scanE_succ, if_pos h]

/-! ### Non-vacuity -/

/-- a stream with two overlapping records and a hole: bytes 1,2,3 at 0, byte 9 at 1, END -/
def demoTail : List Nat :=
  [0,0,0,0,0,0,0,0, 0,0,0,0,0,0,0,3, 1,2,3] ++
  [0,0,0,0,0,0,0,1, 0,0,0,0,0,0,0,1, 9] ++
  [255,255,255,255,255,255,255,255, 0,0,0,0,0,0,0,0]
def demo : File := fun i => if i < 4096 then 0 else demoTail.getD (i - 4096) 0
def demoScan : Scan := ⟨[⟨0, 0⟩, ⟨0, 1⟩, ⟨0, 0⟩, ⟨W - 4, NONE⟩], [4112, 4130], 4132⟩
def demoRecs : List Rec := [⟨0, 3, 4112⟩, ⟨1, 1, 4131⟩]

set_option maxRecDepth 8000 in
example : scan demo 8 init = .ok demoScan := by decide +kernel
example : preadFlat demoScan.map demoScan.offs demo 0 5 = .ok [1, 9, 3, 0, 0] := by rfl
example : getChunkFlat demoScan.map demoScan.offs demo 0 2 = .ok (false, [1, 9]) := by rfl
example : getChunkFlat demoScan.map demoScan.offs demo 2 1 = .ok (true, [3]) := by rfl
example : getChunkFlat demoScan.map demoScan.offs demo 3 2 = .ok (false, [0, 0]) := by rfl
example : Parsed demo HDR demoRecs :=
  @Parsed.more demo 4096 _ 0 3 (by decide +kernel) (by decide +kernel) (by decide)
    (@Parsed.more demo 4115 _ 1 1 (by decide +kernel) (by decide +kernel) (by decide)
      (@Parsed.done demo 4132 (by decide +kernel)))
example : (List.range 5).map (rearranged demo demoRecs) = [1, 9, 3, 0, 0] := by decide +kernel
example : Fits demoRecs := by unfold Fits; decide

set_option maxRecDepth 8000 in
example : scanE demo 4132 8 init = .ok demoScan := by decide +kernel
example : hdrBehindEof 4096 4096 = true := by decide
set_option maxRecDepth 8000 in
example : scanE (fun i => if i < 16 then magic.getD i 0 else 0) 4096 3 init = .err .eof 4096 := by decide +kernel

/-- a split set of two files (frames 2-4 in the window [0,11), frames 12-13 in [11,33)) -/
def demoB : List Body := [⟨0, 11, [⟨2, 3, 16384⟩]⟩, ⟨11, 33, [⟨12, 2, 16384⟩]⟩]

example : DistinctEnds demoB := by unfold DistinctEnds demoB; decide
example : demoB.Perm demoB.reverse := (List.reverse_perm _).symm
example : pdLookup (sortFiles (index demoB)) 33 13 = some (1, 16384 + 24) := by decide
example : pdLookup (sortFiles (index demoB.reverse)) 33 13 = some (0, 16384 + 24) := by decide
example : pdLookup (sortFiles (index demoB.reverse)) 33 3 = some (1, 16384 + 24) := by decide
example : pdLookup (sortFiles (index demoB.reverse)) 33 7 = none := by decide
example : (sortFiles (index demoB.reverse)).Pairwise (fun a b => a.endPfn ≤ b.startPfn) := by decide

end Kdf.Props.C11
