import Kdf.Model.Read
import Kdf.Lemmas.Read
/-!
# C12 — a failed or partial read reports exactly the prefix it delivered

Guards: the page size is positive, the oracle returns whole pages, and the range does not wrap
(`addr + len ≤ 2^64`).
-/
namespace Kdf.Props.C12
open Kdf.Model.Read Kdf.Lemmas.Read

/-- The reported length never exceeds the requested length. -/
theorem read_len_le (ps : Nat) (pages : Oracle) (as addr len : Nat) :
    (readLocked ps pages as addr len).2.length ≤ len :=
  Nat.le_trans (readLoop_len_le len addr len []) (Nat.le_of_eq (Nat.zero_add len))

/-- `readLoop_spec` for a whole call: nothing delivered yet. -/
theorem readLocked_spec {ps : Nat} (hps : 0 < ps) {pages : Oracle} (hwf : PagesWF ps pages)
    {as addr len : Nat} (hw : addr + len ≤ W) {st : Status} {out : List Byte}
    (h : readLocked ps pages as addr len = (st, out)) :
    (∀ i, i < out.length → memAt ps pages as (addr + i) = out[i]?) ∧
    ((out.length = len ∧ st = .ok) ∨
     (out.length < len ∧ pages as (pageAlign ps (addr + out.length)) = .error st ∧
       (out.length = 0 ∨ (addr + out.length) % ps = 0))) := by
  obtain ⟨del, hout, hbytes, hcase⟩ :=
    readLoop_spec hps hwf len addr len [] st out (Nat.le_refl _) hw h
  rw [List.nil_append] at hout
  subst hout
  exact ⟨hbytes, hcase⟩

/-- Degenerate oracle: every fetch fails, but with the status `ok`. -/
def errOkPages : Oracle := fun _ _ => .error .ok

/-- Why `read_ok` and `read_ok_iff` carry the hypothesis `OracleSound`: the C loop
tests `ret != KDUMP_OK`, so a page fetch that "fails with status OK" is
indistinguishable from end of input.  With such an oracle all other guards hold,
the read reports `ok`, yet it delivered 0 of the 1 requested bytes. -/
theorem read_ok_needs_sound :
    0 < 4 ∧ PagesWF 4 errOkPages ∧ 0 + 1 ≤ W ∧
    readLocked 4 errOkPages 0 0 1 = (.ok, []) ∧
    ¬ ((([] : List Byte).length = 1) ∧
        ∀ i, i < 1 → memAt 4 errOkPages 0 (0 + i) = ([] : List Byte)[i]?) ∧
    ¬ ((readLocked 4 errOkPages 0 0 1).1 = .ok ↔ ∀ i, i < 1 → PageOk 4 errOkPages 0 (0 + i)) := by
  refine ⟨by decide, ?_, by decide, by decide, ?_, ?_⟩
  · intro as p d h; cases h
  · intro h; cases h.1
  · intro h
    obtain ⟨d, hd⟩ := h.mp (by decide) 0 (by decide)
    cases hd

/-- Success: the reported length equals the requested length and every byte is
the byte the dump holds at that address.  `OracleSound`: a failing page fetch never carries the status `ok`. -/
theorem read_ok (ps : Nat) (hps : 0 < ps) (pages : Oracle) (hwf : PagesWF ps pages)
    (hne : OracleSound pages)
    (as addr len : Nat) (hw : addr + len ≤ W) (out : List Byte)
    (h : readLocked ps pages as addr len = (.ok, out)) :
    out.length = len ∧ ∀ i, i < len → memAt ps pages as (addr + i) = out[i]? := by
  obtain ⟨hbytes, ⟨hl, _⟩ | ⟨_, hpg, _⟩⟩ := readLocked_spec hps hwf hw h
  · exact ⟨hl, fun i hi => hbytes i (hl ▸ hi)⟩
  · exact absurd hpg (hne _ _)

/-- Zero-length reads succeed without touching any page. -/
theorem read_zero_len (ps : Nat) (pages : Oracle) (as addr : Nat) :
    readLocked ps pages as addr 0 = (.ok, []) := by
  unfold readLocked readLoop; rfl

/-- Failure: the delivered bytes are a correct proper prefix, the count is the
distance to the first byte that could not be provided — the start of the first
page whose fetch failed (or the start address itself if that is in the first
page) — and the status is that page's status. -/
theorem read_fail_prefix (ps : Nat) (hps : 0 < ps) (pages : Oracle) (hwf : PagesWF ps pages)
    (as addr len : Nat) (hw : addr + len ≤ W) (e : Status) (out : List Byte)
    (h : readLocked ps pages as addr len = (e, out)) (he : e ≠ .ok) :
    out.length < len ∧
    (∀ i, i < out.length → memAt ps pages as (addr + i) = out[i]?) ∧
    pages as (pageAlign ps (addr + out.length)) = .error e ∧
    (out.length = 0 ∨ (addr + out.length) % ps = 0) := by
  obtain ⟨hbytes, ⟨_, hs⟩ | ⟨hl, hpg, hal⟩⟩ := readLocked_spec hps hwf hw h
  · exact absurd hs he
  · exact ⟨hl, hbytes, hpg, hal⟩

theorem read_all_of_pages_ok {ps : Nat} (hps : 0 < ps) {pages : Oracle} (hwf : PagesWF ps pages)
    {as addr len : Nat} (hw : addr + len ≤ W) (hall : ∀ i, i < len → PageOk ps pages as (addr + i)) :
    (readLocked ps pages as addr len).2.length = len ∧ (readLocked ps pages as addr len).1 = .ok := by
  obtain ⟨_, h | ⟨hl, hpg, _⟩⟩ := readLocked_spec hps hwf hw rfl
  · exact h
  · -- the page where delivery stopped can be fetched
    obtain ⟨d, hd⟩ := hall _ hl
    rw [hd] at hpg
    cases hpg

/-- The `←` direction of `read_ok_iff` needs no soundness hypothesis: if every
page the read touches can be fetched, the read succeeds. -/
theorem read_ok_of_pages_ok (ps : Nat) (hps : 0 < ps) (pages : Oracle) (hwf : PagesWF ps pages)
    (as addr len : Nat) (hw : addr + len ≤ W)
    (hall : ∀ i, i < len → PageOk ps pages as (addr + i)) :
    (readLocked ps pages as addr len).1 = .ok :=
  (read_all_of_pages_ok hps hwf hw hall).2

/-- The read delivers the full
requested length exactly when every page it touches can be fetched. -/
theorem read_full_iff (ps : Nat) (hps : 0 < ps) (pages : Oracle) (hwf : PagesWF ps pages)
    (as addr len : Nat) (hw : addr + len ≤ W) :
    (readLocked ps pages as addr len).2.length = len ↔
      ∀ i, i < len → PageOk ps pages as (addr + i) :=
  ⟨fun hl i hi =>
      -- byte `i` was delivered, so its page was fetched
      have hi' := Nat.lt_of_lt_of_eq hi hl.symm
      memAt_some_pageOk (((readLocked_spec hps hwf hw rfl).1 i hi').trans (List.getElem?_eq_getElem hi')),
    fun hall => (read_all_of_pages_ok hps hwf hw hall).1⟩

/-- The read succeeds exactly when every page it touches can be fetched.   -/
theorem read_ok_iff (ps : Nat) (hps : 0 < ps) (pages : Oracle) (hwf : PagesWF ps pages)
    (hne : OracleSound pages)
    (as addr len : Nat) (hw : addr + len ≤ W) :
    (readLocked ps pages as addr len).1 = .ok ↔ ∀ i, i < len → PageOk ps pages as (addr + i) :=
  ⟨fun hs => (read_full_iff ps hps pages hwf as addr len hw).mp
      (read_ok ps hps pages hwf hne as addr len hw _ (Prod.ext hs rfl)).1,
    read_ok_of_pages_ok ps hps pages hwf as addr len hw⟩

/-- A string read that succeeds returns exactly the bytes up to (excluding)
the first NUL at or after the address, across any number of pages. -/
theorem string_upto_nul (ps : Nat) (hps : 0 < ps) (pages : Oracle) (hwf : PagesWF ps pages)
    (as addr fuel : Nat) (allocOk : Nat → Bool) (s : List Byte)
    (hw : addr + s.length < W)
    (h : readString ps pages as addr allocOk fuel = (.ok, some s)) :
    (∀ i, i < s.length → ∃ b, memAt ps pages as (addr + i) = some b ∧ b ≠ 0 ∧ s[i]? = some b) ∧
    memAt ps pages as (addr + s.length) = some 0 := by
  obtain ⟨del, hs, hrest⟩ := strLoop_ok_spec hps hwf allocOk fuel addr 0 [] s h
  rw [List.nil_append] at hs
  subst hs
  exact hrest hw

/-- A string read that fails hands no buffer to the caller. -/
theorem string_fail_no_result (ps : Nat) (pages : Oracle) (as addr fuel : Nat) (allocOk : Nat → Bool)
    (e : Status) (r : Option (List Byte))
    (h : readString ps pages as addr allocOk fuel = (e, r)) (he : e ≠ .ok) : r = none :=
  strLoop_fail_none allocOk fuel addr 0 [] e r h he

/-- If a NUL exists at distance `n` with all bytes before it present and
non-zero, allocations succeed and there is enough fuel, the string read
succeeds (so `string_upto_nul` is not vacuous and the loop terminates). -/
theorem string_total (ps : Nat) (hps : 0 < ps) (pages : Oracle) (hwf : PagesWF ps pages)
    (as addr n : Nat) (hw : addr + n < W)
    (hpre : ∀ i, i < n → ∃ b, memAt ps pages as (addr + i) = some b ∧ b ≠ 0)
    (hnul : memAt ps pages as (addr + n) = some 0) (fuel : Nat) (hf : n < fuel) :
    ∃ s, readString ps pages as addr (fun _ => true) fuel = (.ok, some s) ∧ s.length = n := by
  obtain ⟨del, hs, hl⟩ := strLoop_total hps hwf fuel addr n 0 [] hw hpre hnul hf
  exact ⟨del, by simpa [readString] using hs, hl⟩

/-! ### Reads while the page size is unknown -/

/-- Page size not known: a non-empty read fails with `invalid` and reports that nothing was delivered;
an empty read succeeds.  (The reported length is the length of the delivered list.) -/
theorem read_unknown_ps (pages : Oracle) (as addr len : Nat) :
    readApi 0 pages as addr len = if len = 0 then (.ok, []) else (.invalid, []) := by
  by_cases h : len = 0
  · subst h; simp [readApi, readLocked, readLoop]
  · simp [readApi, h]

/-- With a known page size the API read is the read loop, so every theorem above applies. -/
theorem readApi_known (ps : Nat) (hps : 0 < ps) (pages : Oracle) (as addr len : Nat) :
    readApi ps pages as addr len = readLocked ps pages as addr len := by
  simp [readApi, Nat.ne_of_gt hps]

/-- In every state (page size known or not) the reported length never exceeds the requested length. -/
theorem readApi_len_le (ps : Nat) (pages : Oracle) (as addr len : Nat) :
    (readApi ps pages as addr len).2.length ≤ len := by
  unfold readApi
  split
  · simp
  · exact read_len_le ps pages as addr len

/-- String read without a page size: fails, no result (no partial buffer). -/
theorem string_unknown_ps (pages : Oracle) (as addr : Nat) (allocOk : Nat → Bool) (fuel : Nat) :
    readStringApi 0 pages as addr allocOk fuel = (.invalid, none) := by
  simp [readStringApi]

/-! ### Non-vacuity: two present pages of size 4 followed by a missing one. -/
def demoPages : Oracle := fun _ p =>
  if p = 0 then .ok [1, 2, 3, 4] else if p = 4 then .ok [5, 0, 7, 8] else .error .nodata

example : PagesWF 4 demoPages := by
  intro as p d h
  unfold demoPages at h
  split at h
  · cases h; rfl
  · split at h
    · cases h; rfl
    · cases h
example : readLocked 4 demoPages 0 2 10 = (.nodata, [3, 4, 5, 0, 7, 8]) := by decide
example : readLocked 4 demoPages 0 1 6 = (.ok, [2, 3, 4, 5, 0, 7]) := by decide
example : readString 4 demoPages 0 2 (fun _ => true) 10 = (.ok, some [3, 4, 5]) := by decide

end Kdf.Props.C12
