import Kdf.Lemmas.XenRange
import Kdf.Lemmas.XenBuildSort
/-!
# C19 — what `pfn2idx_map_start/add/end` build from a list of distinct frames
-/
namespace Kdf.Lemmas.Xen
open Kdf.Model.Xen

theorem nodup_getElem?_inj {l : List Nat} (hnd : l.Nodup) {i j : Nat} {p : Nat}
    (hi : l[i]? = some p) (hj : l[j]? = some p) : i = j :=
  (List.getElem?_inj (List.getElem?_eq_some_iff.mp hi).1 hnd).mp (hi.trans hj.symm)

theorem exists_mem_concat {α : Type} (l : List α) (x : α) (P : α → Prop) :
    (∃ a ∈ l ++ [x], P a) ↔ (∃ a ∈ l, P a) ∨ P x := by
  simp only [List.mem_append, List.mem_singleton, or_and_right, exists_or, exists_eq_left]

theorem covers_addrange (m : PMap) (rn : Range) (q i : Nat) :
    Covers { m with ranges := m.ranges ++ [rn] } q i ↔ Covers m q i ∨ At rn q i := by
  unfold Covers
  rw [exists_mem_concat]
  exact or_right_comm

theorem covers_addsingle (m : PMap) (sn : Single) (q i : Nat) :
    Covers { m with singles := m.singles ++ [sn] } q i ↔ Covers m q i ∨ (sn.pfn = q ∧ sn.idx = i) := by
  unfold Covers
  rw [exists_mem_concat]
  exact (or_assoc ..).symm

/-- the map indexes exactly the first `k` listed frames -/
structure Indexed (l : List Nat) (k : Nat) (m : PMap) : Prop where
  cov : ∀ q i, Covers m q i ↔ i < k ∧ l[i]? = some q
  rok : ∀ r ∈ m.ranges, ROk r
  rdis : m.ranges.Pairwise (fun a b => hi a < lo b ∨ hi b < lo a)
  sdis : m.singles.Pairwise (fun a b => a.pfn ≠ b.pfn)

/-- loop invariant after `c.idx` calls of `pfn2idx_map_add`: the frames at positions below `k` are
stored, those at `k ≤ i < c.idx` are the run the cursor is collecting -/
structure Inv (l : List Nat) (k : Nat) (m : PMap) (c : Range) : Prop where
  stored : Indexed l k m
  idx_le : c.idx ≤ l.length
  split : k + c.len.natAbs = c.idx
  pending : ∀ q i, At c q (i + 1) ↔ (k ≤ i ∧ i < c.idx) ∧ l[i]? = some q

theorem eq_of_ite_none {α : Type} {P : Prop} [Decidable P] {x y : α}
    (h : (if P then none else some x) = some y) : x = y := by
  split at h
  · cases h
  · exact Option.some.inj h

variable {l : List Nat} {k : Nat} {m m' : PMap} {c c' : Range}

namespace Inv

theorem not_both (h : Inv l k m c) (hnd : l.Nodup) {q i j : Nat} (h1 : Covers m q i) (h2 : At c q (j + 1)) :
    False := by
  have a := (h.stored.cov q i).mp h1
  have b := (h.pending q j).mp h2
  have := nodup_getElem?_inj hnd a.2 b.2
  omega

theorem cov_union (h : Inv l k m c) (q i : Nat) :
    Covers m q i ∨ At c q (i + 1) ↔ i < c.idx ∧ l[i]? = some q := by
  have hs := h.split
  rw [h.stored.cov, h.pending]
  constructor
  · rintro (⟨a, b⟩ | ⟨a, b⟩)
    · exact ⟨by omega, b⟩
    · exact ⟨a.2, b⟩
  · rintro ⟨a, b⟩
    by_cases hk : i < k
    · exact Or.inl ⟨hk, b⟩
    · exact Or.inr ⟨⟨by omega, a⟩, b⟩

theorem wrap_idx (h : Inv l k m c) (hlen : l.length < 2^63) (h0 : c.len ≠ 0) :
    wrap ((c.idx : Int) - 1) = c.idx - 1 := by
  have hs := h.split
  have hi := h.idx_le
  rw [wrap_of_lt _ (by omega) (by rw [W_eq]; omega)]; omega

/-- the two ends of the pending run are listed frames, hence 64-bit values -/
theorem fits (h : Inv l k m c) (hl : ∀ p ∈ l, p < W) (h0 : c.len ≠ 0) : 0 ≤ lo c ∧ hi c < (W : Int) := by
  have hs := h.split
  have hi := h.idx_le
  have hk : k < l.length := by omega
  have hj : c.idx - 1 < l.length := by omega
  have a := (h.pending l[k] k).mpr ⟨⟨Nat.le_refl k, by omega⟩, List.getElem?_eq_getElem hk⟩
  have b := (h.pending l[c.idx - 1] (c.idx - 1)).mpr ⟨⟨by omega, by omega⟩, List.getElem?_eq_getElem hj⟩
  have ha := hl _ (List.getElem_mem hk)
  have hb := hl _ (List.getElem_mem hj)
  by_cases hc : 0 ≤ c.len
  · rw [at_of_nonneg hc] at a b
    rw [lo_of_nonneg hc, hi_of_nonneg hc]
    omega
  · rw [at_of_neg (Int.not_le.mp hc)] at a b
    rw [lo_of_neg (Int.not_le.mp hc), hi_of_neg (Int.not_le.mp hc)]
    omega

theorem rok_pend (h : Inv l k m c) (hl : ∀ p ∈ l, p < W) (hlen : l.length < 2^63)
    (hc : c.len > 1 ∨ c.len < -1) : ROk (pend c) := by
  have hs := h.split
  have hi := h.idx_le
  have hb := h.fits hl (by omega)
  refine ⟨by show c.len ≥ 2 ∨ c.len ≤ -2; omega, hb.1, hb.2, ?_, ?_⟩
  · show if c.len ≥ 0 then c.len ≤ ((c.idx - 1 : Nat) : Int) + 1 else -c.len ≤ ((c.idx - 1 : Nat) : Int) + 1
    split <;> omega
  · show c.idx - 1 < W - 1
    rw [W_eq]; omega

theorem pfn_lt (h : Inv l k m c) (hl : ∀ p ∈ l, p < W) (h0 : c.len ≠ 0) : c.pfn < W := by
  have := (h.fits hl h0).2
  have := pfn_le_hi c
  omega

end Inv

theorem upto_succ {j p : Nat} (hp : l[j]? = some p) (hk : k ≤ j) (q i : Nat) :
    (k ≤ i ∧ i < j + 1) ∧ l[i]? = some q ↔ ((k ≤ i ∧ i < j) ∧ l[i]? = some q) ∨ (q = p ∧ i = j) := by
  constructor
  · rintro ⟨⟨a, b⟩, e⟩
    by_cases hij : i = j
    · subst hij
      exact Or.inr ⟨Option.some.inj (e.symm.trans hp), rfl⟩
    · exact Or.inl ⟨⟨a, by omega⟩, e⟩
  · rintro (⟨⟨a, b⟩, e⟩ | ⟨rfl, rfl⟩)
    · exact ⟨⟨a, by omega⟩, e⟩
    · exact ⟨⟨hk, Nat.lt_succ_self _⟩, hp⟩

theorem Inv.extend {p : Nat} (h : Inv l k m c) (hp : l[c.idx]? = some p) (hidx : c'.idx = c.idx + 1)
    (hlen : c'.len.natAbs = c.len.natAbs + 1)
    (hat : ∀ q i, At c' q (i + 1) ↔ At c q (i + 1) ∨ (q = p ∧ i = c.idx)) : Inv l k m c' := by
  have hs := h.split
  refine ⟨h.stored, ?_, by omega, ?_⟩
  · rw [hidx]; exact (List.getElem?_eq_some_iff.mp hp).1
  · intro q i
    rw [hat, h.pending, hidx, upto_succ hp (by omega)]

theorem Indexed.inv_empty (s : Indexed l k m) (hk : k ≤ l.length) (pfn : Nat) : Inv l k m ⟨pfn, k, 0⟩ :=
  ⟨s, hk, rfl, fun q _ => ⟨fun h => absurd h (at_empty rfl q _), fun h => absurd h.1.2 (Nat.not_lt.mpr h.1.1)⟩⟩

theorem eq_succ_of_mod {a p : Nat} (ha : a < W) (h : p = (a + 1) % W) (h0 : p ≠ 0) : p = a + 1 := by
  rw [W_eq] at ha h; omega

theorem eq_pred_of_wrap {a p : Nat} (ha : a < W) (h : p = wrap ((a : Int) - 1)) (h0 : a ≠ 0) : p = a - 1 := by
  rw [wrap_of_lt _ (by omega) (by omega)] at h; omega

section
variable (ok : Nat → Bool) (hl : ∀ p ∈ l, p < W) (hnd : l.Nodup) (hlen : l.length < 2^63)
include hl hnd hlen

theorem addrange_indexed (h : Inv l k m c) (ha : addrange ok m c = some m') : Indexed l c.idx m' := by
  have hs := h.split
  unfold addrange at ha
  by_cases hc : c.len > 1 ∨ c.len < -1
  · rw [if_pos hc, h.wrap_idx hlen (by omega)] at ha
    obtain rfl : { m with ranges := m.ranges ++ [pend c] } = m' := eq_of_ite_none ha
    have hat := at_pend (c := c) (by omega)
    have hrok := h.rok_pend hl hlen hc
    refine ⟨?_, ?_, ?_, h.stored.sdis⟩
    · intro q i
      rw [covers_addrange, hat, h.cov_union]
    · exact List.forall_mem_append.mpr ⟨h.stored.rok, List.forall_mem_singleton.mpr hrok⟩
    · refine List.pairwise_append.mpr ⟨h.stored.rdis, List.pairwise_singleton _ _, fun a ha => ?_⟩
      refine List.forall_mem_singleton.mpr ?_
      have haok := h.stored.rok a ha
      -- otherwise the two ranges share a frame
      apply Decidable.byContradiction
      intro hcon
      obtain ⟨q, ⟨h1, h2⟩, h3, h4⟩ :=
        common_frame haok.2.1 hrok.2.1 (lo_le_hi haok.len_ne) (lo_le_hi hrok.len_ne) hcon
      exact h.not_both hnd (Or.inl ⟨a, ha, haok.at_toNat h1 h2⟩) ((hat q _).mp (hrok.at_toNat h3 h4))
  · by_cases hc0 : c.len = 0
    · rw [if_neg hc, if_neg (fun h => h hc0)] at ha
      obtain rfl := Option.some.inj ha
      obtain rfl : k = c.idx := by omega
      exact h.stored
    · rw [if_neg hc, if_pos hc0, h.wrap_idx hlen hc0] at ha
      obtain rfl : { m with singles := m.singles ++ [⟨c.pfn, c.idx - 1⟩] } = m' := eq_of_ite_none ha
      have hat : ∀ q i, c.pfn = q ∧ c.idx - 1 = i ↔ At c q (i + 1) := by
        intro q i
        rw [at_single (by omega)]
        exact and_congr_right fun _ => by omega
      refine ⟨?_, h.stored.rok, h.stored.rdis, ?_⟩
      · intro q i
        rw [covers_addsingle, hat, h.cov_union]
      · refine List.pairwise_append.mpr ⟨h.stored.sdis, List.pairwise_singleton _ _, fun a ha => ?_⟩
        refine List.forall_mem_singleton.mpr fun heq => ?_
        exact h.not_both hnd (Or.inr ⟨a, ha, rfl, rfl⟩) ((hat _ _).mp ⟨heq.symm, rfl⟩)

/-- three branches of `pfn2idx_map_add` extend the run, the last stores it and starts anew -/
theorem add_inv {p : Nat} (h : Inv l k m c) (hp : l[c.idx]? = some p) (ha : add ok m c p = some (m', c')) :
    ∃ k', Inv l k' m' c' ∧ c'.idx = c.idx + 1 := by
  have hidx := (List.getElem?_eq_some_iff.mp hp).1
  have e1 : (c.idx + 1) % W = c.idx + 1 := by rw [W_eq]; omega
  unfold add at ha
  rw [e1] at ha
  split at ha
  · next hc =>
    obtain rfl := eq_succ_of_mod (h.pfn_lt hl (Int.ne_of_gt hc.1)) hc.2.1 hc.2.2
    obtain ⟨rfl, rfl⟩ := Prod.mk.inj (Option.some.inj ha)
    exact ⟨k, h.extend hp rfl (by show (c.len + 1).natAbs = _; omega) (at_push_up hc.1), rfl⟩
  · split at ha
    · next hn hc =>
      clear hn
      obtain rfl := eq_pred_of_wrap (h.pfn_lt hl (Int.ne_of_lt hc.1)) hc.2.1 hc.2.2
      obtain ⟨rfl, rfl⟩ := Prod.mk.inj (Option.some.inj ha)
      exact ⟨k, h.extend hp rfl (by show (c.len - 1).natAbs = _; omega) (at_push_down hc.1 (by omega)), rfl⟩
    · split at ha
      · next hn1 hn2 hc =>
        clear hn1 hn2
        obtain rfl := eq_pred_of_wrap (h.pfn_lt hl (by omega)) hc.2.1 hc.2.2
        obtain ⟨rfl, rfl⟩ := Prod.mk.inj (Option.some.inj ha)
        exact ⟨k, h.extend hp rfl (by rw [hc.1]; rfl) (at_turn_down hc.1 (by omega)), rfl⟩
      · cases hadd : addrange ok m c with
        | none => rw [hadd] at ha; cases ha
        | some m1 =>
          rw [hadd] at ha
          obtain ⟨rfl, rfl⟩ := Prod.mk.inj (Option.some.inj ha)
          exact ⟨c.idx, ((addrange_indexed ok hl hnd hlen h hadd).inv_empty (Nat.le_of_lt hidx) c.pfn).extend hp rfl rfl
            (at_start c.pfn p c.idx), rfl⟩

theorem buildFrom_inv (rest : List Nat) (h : Inv l k m c) (hd : l.drop c.idx = rest)
    (hb : buildFrom ok (m, c) rest = some (m', c')) : ∃ k', Inv l k' m' c' ∧ c'.idx = l.length := by
  induction rest generalizing k m c with
  | nil =>
    obtain ⟨rfl, rfl⟩ := Prod.mk.inj (Option.some.inj hb)
    exact ⟨k, h, Nat.le_antisymm h.idx_le (List.drop_eq_nil_iff.mp hd)⟩
  | cons p ps ih =>
    have hp : l[c.idx]? = some p := by
      rw [← Nat.add_zero c.idx, ← List.getElem?_drop, hd]; rfl
    simp only [buildFrom] at hb
    cases hadd : add ok m c p with
    | none => rw [hadd] at hb; cases hb
    | some s1 =>
      obtain ⟨m1, c1⟩ := s1
      rw [hadd] at hb
      obtain ⟨k1, h1, e1⟩ := add_inv ok hl hnd hlen h hp hadd
      refine ih h1 ?_ hb
      rw [e1, ← List.tail_drop, hd]; rfl

end

/-- the `qsort` calls of `pfn2idx_map_end` -/
theorem Indexed.sort (s : Indexed l k m) :
    Sorted ⟨sortBy rangeLe m.ranges, sortBy singleLe m.singles⟩ ∧
    ∀ p i, Covers ⟨sortBy rangeLe m.ranges, sortBy singleLe m.singles⟩ p i ↔ Covers m p i := by
  have hmr : ∀ r, r ∈ sortBy rangeLe m.ranges ↔ r ∈ m.ranges := mem_sortBy _ _
  refine ⟨⟨fun r hr => s.rok r ((hmr r).mp hr), ?_, ?_⟩, fun p i => ?_⟩
  · refine (sortBy_pairwise (key := Range.pfn) (fun a b => decide_eq_true_iff) (fun a b => Or.symm)
      s.rdis).imp_of_mem ?_
    intro a b ha _ hab
    have h1 := lo_le_pfn (s.rok a ((hmr a).mp ha)).len_ne
    have h2 := pfn_le_hi b
    omega
  · exact (sortBy_pairwise (key := Single.pfn) (fun a b => decide_eq_true_iff) (fun a b => Ne.symm)
      s.sdis).imp fun hab => Nat.lt_of_le_of_ne hab.1 hab.2
  · unfold Covers
    simp only [mem_sortBy]

/-- The finished map is sorted and describes exactly the list: it says "frame
`p` is page `i`" iff `l[i] = p`. -/
theorem build_spec (ok : Nat → Bool) (junk : Nat) (l : List Nat) (m : PMap)
    (hl : ∀ p ∈ l, p < W) (hnd : l.Nodup) (hlen : l.length < 2^63)
    (hb : build ok junk l = some m) :
    Sorted m ∧ (∀ p i, Covers m p i ↔ l[i]? = some p) := by
  unfold build at hb
  cases hbf : buildFrom ok (mapStart junk) l with
  | none => rw [hbf] at hb; cases hb
  | some s =>
    obtain ⟨m1, c1⟩ := s
    rw [hbf] at hb
    have s0 : Indexed l 0 ⟨[], []⟩ := by
      refine ⟨fun q i => ⟨?_, fun h => absurd h.1 (Nat.not_lt_zero _)⟩, nofun, List.Pairwise.nil, List.Pairwise.nil⟩
      rintro (⟨_, hr, _⟩ | ⟨_, hs, _⟩)
      · cases hr
      · cases hs
    obtain ⟨k1, h1, e1⟩ := buildFrom_inv ok hl hnd hlen l (s0.inv_empty (Nat.zero_le _) junk) rfl hbf
    simp only [mapEnd] at hb
    cases hadd : addrange ok m1 c1 with
    | none => rw [hadd] at hb; cases hb
    | some m2 =>
      rw [hadd] at hb
      obtain rfl := Option.some.inj hb
      have s2 := addrange_indexed ok hl hnd hlen h1 hadd
      rw [e1] at s2
      refine ⟨s2.sort.1, fun p i => ?_⟩
      rw [s2.sort.2, s2.cov]
      exact and_iff_right_of_imp fun h => (List.getElem?_eq_some_iff.mp h).1

theorem ite_isSome {α : Type} {P : Prop} [Decidable P] {a b : Option α} (ha : ∃ x, a = some x)
    (hb : ∃ x, b = some x) : ∃ x, (if P then a else b) = some x := by
  split
  · exact ha
  · exact hb

section
variable (ok : Nat → Bool) (hok : ∀ n, ok n = true)
include hok

theorem addrange_total (m : PMap) (c : Range) : ∃ m', addrange ok m c = some m' := by
  have hf : ∀ (P : Prop) [Decidable P] (n : Nat) (x : PMap),
      ∃ m', (if P ∧ ok n = false then none else some x) = some m' := by
    intro P _ n x
    rw [hok, if_neg (fun h => Bool.noConfusion h.2)]
    exact ⟨x, rfl⟩
  exact ite_isSome (hf _ _ _) (ite_isSome (hf _ _ _) ⟨m, rfl⟩)

theorem add_total (m : PMap) (c : Range) (p : Nat) : ∃ s, add ok m c p = some s := by
  obtain ⟨m', hm'⟩ := addrange_total ok hok m c
  unfold add
  rw [hm']
  exact ite_isSome ⟨_, rfl⟩ (ite_isSome ⟨_, rfl⟩ (ite_isSome ⟨_, rfl⟩ ⟨_, rfl⟩))

theorem buildFrom_total (l : List Nat) (s : PMap × Range) : ∃ s', buildFrom ok s l = some s' := by
  induction l generalizing s with
  | nil => exact ⟨s, rfl⟩
  | cons p ps ih =>
    obtain ⟨m, c⟩ := s
    obtain ⟨s1, hs1⟩ := add_total ok hok m c p
    simp only [buildFrom, hs1]
    exact ih s1

end

end Kdf.Lemmas.Xen
