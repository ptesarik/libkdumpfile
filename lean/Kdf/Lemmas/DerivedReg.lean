import Kdf.Model.Derived
/-! Registers as views of PRSTATUS (`encode`/`decode`, `patch`, the invariant `AllInvalid`, what
`getReg`/`setReg` return under it), and the version code (invariant `VerInv`). -/
namespace Kdf.Lemmas.DerivedReg
open Kdf.Model.Derived

theorem decodeLE_encodeLE (n v : Nat) : decodeLE (encodeLE n v) = v % 256 ^ n := by
  induction n generalizing v with
  | zero => simp [encodeLE, decodeLE, Nat.mod_one]
  | succ n ih =>
    simp only [encodeLE, decodeLE, ih]
    rw [Nat.pow_succ, Nat.mul_comm (256 ^ n) 256, Nat.mod_mul]

theorem encodeLE_length (n v : Nat) : (encodeLE n v).length = n := by
  induction n generalizing v with
  | zero => rfl
  | succ n ih => simp [encodeLE, ih]

theorem decode_encode (be : Bool) (len v : Nat) : decode be (encode be len v) = v % 256 ^ len := by
  cases be <;> simp [decode, encode, decodeLE_encodeLE]

theorem encode_length (be : Bool) (len v : Nat) : (encode be len v).length = len := by
  cases be <;> simp [encode, encodeLE_length]

theorem setNth_eq_set {α} (l : List α) (i : Nat) (a : α) : setNth l i a = l.set i a := by
  induction l generalizing i with
  | nil => rfl
  | cons h t ih => cases i with
    | zero => rfl
    | succ n => rw [setNth, List.set_cons_succ, ih]

theorem setNth_length {α} (l : List α) (i : Nat) (a : α) : (setNth l i a).length = l.length := by
  rw [setNth_eq_set, List.length_set]

theorem getElem?_setNth_self {α} {l : List α} {i : Nat} {r : α} (a : α) (hr : l[i]? = some r) :
    (setNth l i a)[i]? = some a := by
  rw [setNth_eq_set, List.getElem?_set_self', hr]
  rfl

theorem getElem?_setNth_ne {α} (l : List α) {i j : Nat} (a : α) (h : i ≠ j) :
    (setNth l i a)[j]? = l[j]? := by
  rw [setNth_eq_set, List.getElem?_set_ne h]

theorem mem_setNth {α} {l : List α} {i : Nat} {a x : α} (hx : x ∈ setNth l i a) : x ∈ l ∨ x = a := by
  rw [setNth_eq_set] at hx
  exact List.mem_or_eq_of_mem_set hx

theorem length_patch (b : Bytes) (off : Nat) (bs : Bytes) (h : off + bs.length ≤ b.length) :
    (patch b off bs).length = b.length := by
  simp only [patch, List.length_append, List.length_take, List.length_drop]
  omega

theorem drop_take_patch (b : Bytes) (off : Nat) (bs : Bytes) (h : off ≤ b.length) :
    ((patch b off bs).drop off).take bs.length = bs := by
  rw [patch, List.append_assoc, List.drop_left' (List.length_take_of_le h), List.take_left' rfl]

theorem getElem?_patch_outside (b : Bytes) (off : Nat) (bs : Bytes) (j : Nat)
    (h : off + bs.length ≤ b.length) (hj : j < off ∨ off + bs.length ≤ j) :
    (patch b off bs)[j]? = b[j]? := by
  have h1 : (b.take off).length = off := List.length_take_of_le (by omega)
  unfold patch
  rcases hj with hj | hj
  · rw [List.append_assoc, List.getElem?_append_left (by omega), List.getElem?_take_of_lt hj]
  · rw [List.getElem?_append_right (by rw [List.length_append, h1]; omega), List.getElem?_drop,
      List.length_append, h1]
    congr 1
    omega

/-- every register value is flagged "to be re-read from the blob" -/
def AllInvalid (c : Cpu) : Prop := ∀ r ∈ c.regs, r.invalid = true

theorem inv_of_get {c : Cpu} (h : AllInvalid c) {i : Nat} {r : Reg} (hr : c.regs[i]? = some r) :
    r.invalid = true := h r (List.mem_of_getElem? hr)

theorem AllInvalid.setNth {c c' : Cpu} (h : AllInvalid c) {i : Nat} {r : Reg} (hi : r.invalid = true)
    (hc : c'.regs = setNth c.regs i r) : AllInvalid c' := by
  intro x hx
  rw [hc] at hx
  rcases mem_setNth hx with hx | rfl
  · exact h x hx
  · exact hi

theorem regRevalidate_invalid (c : Cpu) (r : Reg) : (regRevalidate c r).2.invalid = r.invalid := by
  simp only [regRevalidate, apply_ite Prod.snd, apply_ite Reg.invalid, ite_self]

theorem setReg_allInvalid (c : Cpu) (h : AllInvalid c) (i v : Nat) : AllInvalid (setReg c i v).2 := by
  unfold setReg
  cases hr : c.regs[i]? with
  | none => exact h
  | some r =>
    -- the short cut is not taken; every other branch stores the register flagged invalid
    refine h.setNth (i := i) (r := { r with val := v, invalid := true }) rfl ?_
    simp only [inv_of_get h hr, Bool.not_true, Bool.false_eq_true, false_and, if_false,
      apply_ite Prod.snd, apply_ite Cpu.regs, ite_self]

theorem getReg_allInvalid (c : Cpu) (h : AllInvalid c) (i : Nat) : AllInvalid (getReg c i).2.1 := by
  unfold getReg
  cases hr : c.regs[i]? with
  | none => exact h
  | some r =>
    simp only [inv_of_get h hr, Bool.not_true, Bool.false_eq_true, if_false]
    exact h.setNth ((regRevalidate_invalid c r).trans (inv_of_get h hr)) rfl

/-- an edit of the blob leaves the registers alone -/
theorem poke_allInvalid {c c' : Cpu} (h : AllInvalid c) {off : Nat} {bs : Bytes}
    (e : poke c off bs = some c') : AllInvalid c' := by
  unfold poke at e
  split at e
  · cases e; exact h
  · cases e

-- Under `AllInvalid` the cached-value short cut is never taken: a read is `regRevalidate` on the
-- blob, a write always stores and patches.
section
variable (c : Cpu) (h : AllInvalid c) (i : Nat) (r : Reg) (hr : c.regs[i]? = some r)
include h hr

theorem getReg_eq (hb : c.blobSet = true) (hin : r.d.off + r.d.len ≤ c.blob.length)
    (hl : okLen r.d.len = true) :
    getReg c i = (.ok,
      { c with regs := setNth c.regs i { r with val := decode c.be ((c.blob.drop r.d.off).take r.d.len) } },
      some (decode c.be ((c.blob.drop r.d.off).take r.d.len))) := by
  have hn : ¬ (r.d.off + r.d.len > c.blob.length) := by omega
  simp [getReg, regRevalidate, hr, inv_of_get h hr, hb, hn, hl]

theorem getReg_short (hb : c.blobSet = true) (hout : c.blob.length < r.d.off + r.d.len) :
    (getReg c i).1 = .corrupt ∧ (getReg c i).2.2 = none := by
  simp [getReg, regRevalidate, hr, inv_of_get h hr, hb, hout]

theorem setReg_eq (v : Nat) (hb : c.blobSet = true) (hin : r.d.off + r.d.len ≤ c.blob.length)
    (hl : okLen r.d.len = true) :
    setReg c i v = (.ok, { c with regs := setNth c.regs i { r with val := v, invalid := true },
                                  blob := patch c.blob r.d.off (encode c.be r.d.len v) }) := by
  have hn : ¬ (r.d.off + r.d.len > c.blob.length) := by omega
  simp [setReg, hr, inv_of_get h hr, hb, hn, hl]

theorem setReg_short (v : Nat) (hb : c.blobSet = true) (hout : c.blob.length < r.d.off + r.d.len) :
    (setReg c i v).1 = .corrupt ∧ (setReg c i v).2.blob = c.blob := by
  simp [setReg, hr, inv_of_get h hr, hb, hout]

theorem getReg_cleared (hb : c.blobSet = false) :
    (getReg c i).1 = .nodata ∧ (getReg c i).2.2 = none := by
  simp [getReg, regRevalidate, hr, inv_of_get h hr, hb]

theorem setReg_cleared (v : Nat) (hb : c.blobSet = false) :
    (setReg c i v).1 = .nodata ∧ (setReg c i v).2.blob = c.blob ∧ (setReg c i v).2.blobSet = false := by
  simp [setReg, hr, inv_of_get h hr, hb]

end

/-- the read decodes the bytes the write has just patched in -/
theorem get_after_set (c : Cpu) (h : AllInvalid c) (hb : c.blobSet = true) (i v : Nat) (r : Reg) (hr : c.regs[i]? = some r)
    (hin : r.d.off + r.d.len ≤ c.blob.length) (hl : okLen r.d.len = true) :
    (getReg (setReg c i v).2 i).2.2 = some (v % 256 ^ r.d.len) := by
  have hlen : (encode c.be r.d.len v).length = r.d.len := encode_length _ _ _
  have hA : AllInvalid (setReg c i v).2 := setReg_allInvalid c h i v
  rw [setReg_eq c h i r hr v hb hin hl] at hA ⊢
  have hpl : (patch c.blob r.d.off (encode c.be r.d.len v)).length = c.blob.length :=
    length_patch _ _ _ (by rw [hlen]; exact hin)
  have hdt := drop_take_patch c.blob r.d.off (encode c.be r.d.len v) (by omega)
  rw [hlen] at hdt
  rw [getReg_eq _ hA i _ (getElem?_setNth_self _ hr) hb (by rw [hpl]; exact hin) hl]
  dsimp only
  rw [hdt, decode_encode]

/-- whenever the version code is set and not flagged invalid it is the code of the
current release string -/
def VerInv (v : Ver) : Prop :=
  (v.isset = true ∧ v.invalid = false) →
    ∃ r a b c, v.release = some r ∧ parseRelease r = some (a, b, c) ∧ kernelVersion a b c = some v.val

theorem setRelease_inv (v : Ver) (h : VerInv v) (s : Bytes) : VerInv (setRelease v s) := by
  unfold setRelease
  split
  · exact h
  · intro hh
    simp at hh

theorem clearRelease_inv (v : Ver) : VerInv (clearRelease v) := by
  unfold clearRelease
  intro hh
  cases hs : v.isset <;> simp [hs] at hh

theorem getVer_inv (v : Ver) (h : VerInv v) :
    match getVer v with
    | .done st (v', r) =>
      VerInv v' ∧ v'.release = v.release ∧
      (st = .ok → ∃ rel a b c n, r = some n ∧ v.release = some rel ∧ parseRelease rel = some (a, b, c) ∧
                   kernelVersion a b c = some n) ∧
      (st ≠ .ok → r = none)
    | .ub => ∃ rel a b c, v.release = some rel ∧ parseRelease rel = some (a, b, c) ∧ kernelVersion a b c = none
    | .fuel => False := by
  generalize hg : getVer v = o
  unfold getVer at hg
  split at hg
  · subst hg
    exact ⟨h, rfl, nofun, fun _ => rfl⟩
  · rename_i hset
    split at hg
    · rename_i hval
      subst hg
      -- the cached code is served: the invariant says what it is
      obtain ⟨rel, a, b, c, h1, h2, h3⟩ := h ⟨by simpa using hset, by simpa using hval⟩
      exact ⟨h, rfl, fun _ => ⟨rel, a, b, c, _, rfl, h1, h2, h3⟩, fun hne => absurd rfl hne⟩
    · split at hg
      · subst hg
        exact ⟨h, rfl, nofun, fun _ => rfl⟩
      · rename_i rel hrel
        split at hg
        · subst hg
          exact ⟨h, rfl, nofun, fun _ => rfl⟩
        · rename_i a b c hp
          split at hg
          · rename_i hk
            subst hg
            exact ⟨rel, a, b, c, hrel, hp, hk⟩
          · rename_i code hk
            subst hg
            exact ⟨fun _ => ⟨rel, a, b, c, hrel, hp, hk⟩, rfl,
              fun _ => ⟨rel, a, b, c, code, rfl, hrel, hp, hk⟩, fun hne => absurd rfl hne⟩

end Kdf.Lemmas.DerivedReg
