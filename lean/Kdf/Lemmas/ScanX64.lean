import Kdf.Lemmas.Scan
import Kdf.Lemmas.ScanLinear
/-! C08: on the x86-64 paging forms `lowest_mapped` / `lowest_unmapped` meet the specifications `LMOk` / `LUOk`
under which `Kdf.Lemmas.ScanLinear` proves `highest_linear` sound (composed in
`Kdf.Props.C08.x64_highest_linear_sound`). -/
namespace Kdf.Lemmas.Scan
open Kdf.Model.Pgt Kdf.Model.Scan Kdf.Model.PgtArch Kdf.Lemmas.ScanLinear

theorem sameHalf_mono {pf : PagingForm} {lo lo' limit : Nat} (hh : SameHalf pf lo limit)
    (h1 : lo ≤ lo') (h2 : lo' ≤ limit) : SameHalf pf lo' limit :=
  ⟨h2, hh.2.1, hh.2.2.imp_right fun hc => Nat.le_trans hc h1⟩

theorem andNot_mono {limit : Nat} (hlim : limit < W) (a b : Nat) (ha : andNot a 4095 = a)
    (hab : a ≤ b) (hb : b ≤ limit) : a ≤ andNot b 4095 := by
  have hbW : b < W := Nat.lt_of_le_of_lt hb hlim
  have haW : a < W := Nat.lt_of_le_of_lt hab hbW
  rw [andNot_eq a haW] at ha
  rw [andNot_eq b hbW]
  simp only [clearLow] at *
  omega

theorem mapped_of_wk_ok {c : ScanCfg} {x : Nat} {b : FullAddr} (h : walkTarget c x = .ok b) :
    Mapped (walk extra c.mem c.meth) x := map_ok_exists h

theorem not_mapped_of_wk_error {c : ScanCfg} {x : Nat} {e : XStatus} (h : walkTarget c x = .error e) :
    ¬ Mapped (walk extra c.mem c.meth) x := by
  intro ⟨s, hs⟩
  cases (map_error_iff.1 h).symm.trans hs

section
variable (c : ScanCfg) (hpf : XF c.pf) (hmask : c.pteMask < W)
  (hmemok : ∀ as a sz, c.mem as a sz ≠ .error .ok) (a limit : Nat) (hh : SameHalf c.pf (clearLow a 12) limit)
include hpf hmask hmemok hh

theorem lowestMapped_LMOk :
    LMOk (walk extra c.mem c.meth) 4095 (clearLow a 12) limit
      (lowestMapped (firstStep c.meth) c.sf c.pf a limit) := by
  obtain ⟨T, hT, hp⟩ := lowestMapped_post c hpf hmask hmemok a limit hh
  exact hp.toMatch (C := fun _ _ => True)
    (fun a' _ ⟨h1, h2, ⟨h3, h4⟩, h5⟩ => by
      refine ⟨h1, h2, ?_, mapped_of_wk_ok h4, fun x hx1 hx2 => not_mapped_of_wk_error (h5 x hx1 hx2)⟩
      rw [andNot_eq a' (Nat.lt_of_le_of_lt h2 hh.2.1)]
      simp only [clearLow]
      omega)
    (fun _ hn x hx1 hx2 => not_mapped_of_wk_error (Post.np_all hn hT x hx1 hx2))
    (fun _ _ _ _ _ _ => trivial)

theorem lowestUnmapped_LUOk :
    LUOk (walk extra c.mem c.meth) (clearLow a 12) limit
      (lowestUnmapped (firstStep c.meth) c.sf c.pf a limit) := by
  obtain ⟨T, hT, hp⟩ := lowestUnmapped_post c hpf hmask hmemok a limit hh
  exact hp.toMatch (C := fun _ _ => True)
    (fun _ _ ⟨h1, h2, h3, h5⟩ =>
      ⟨h1, h2, not_mapped_of_wk_error h3, fun x hx1 hx2 => (h5 x hx1 hx2).elim fun _ => mapped_of_wk_ok⟩)
    (fun _ hn x hx1 hx2 => (Post.np_all hn hT x hx1 hx2).elim fun _ => mapped_of_wk_ok)
    (fun _ _ _ _ _ _ => trivial)

end

end Kdf.Lemmas.Scan
