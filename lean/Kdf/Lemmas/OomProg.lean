import Kdf.Model.Oom
import Kdf.Lemmas.Oom
/-! The stages of `kdump_new` and `kdump_clone` as `Done` / `Failed` steps over the ledger. -/
namespace Kdf.Lemmas.Oom
open Kdf.Model.Oom

/-- the start state with the holds and the reference counts replaced: the base
against which the stages after a lock operation / a reference count update are
described -/
def _root_.Kdf.Model.Oom.St.set (s : St) (r w sh di xr : Nat) : St :=
  { s with rd := r, wr := w, shRef := sh, dictRef := di, xlatRef := xr }

@[simp] theorem St.set_live (s : St) (r w sh di xr : Nat) : (s.set r w sh di xr).live = s.live := rfl
@[simp] theorem St.set_cnt (s : St) (r w sh di xr : Nat) : (s.set r w sh di xr).cnt = s.cnt := rfl
@[simp] theorem St.set_failAt (s : St) (r w sh di xr : Nat) : (s.set r w sh di xr).failAt = s.failAt := rfl
@[simp] theorem St.set_bad (s : St) (r w sh di xr : Nat) : (s.set r w sh di xr).bad = s.bad := rfl
@[simp] theorem St.set_rd (s : St) (r w sh di xr : Nat) : (s.set r w sh di xr).rd = r := rfl
@[simp] theorem St.set_wr (s : St) (r w sh di xr : Nat) : (s.set r w sh di xr).wr = w := rfl
@[simp] theorem St.set_shRef (s : St) (r w sh di xr : Nat) : (s.set r w sh di xr).shRef = sh := rfl
@[simp] theorem St.set_dictRef (s : St) (r w sh di xr : Nat) : (s.set r w sh di xr).dictRef = di := rfl
@[simp] theorem St.set_xlatRef (s : St) (r w sh di xr : Nat) : (s.set r w sh di xr).xlatRef = xr := rfl

variable {a b c s s' : St} {l bl l1 l2 l₁ l₂ l₃ ids : List Nat} {t t' t1 t2 k g i : Nat}

/-- a stage that hit the failing allocation within its `t` attempts and still holds `bl` -/
structure Failed (s s' : St) (t : Nat) (bl : List Nat) : Prop where
  live : s'.live = bl ++ s.live
  fr : Fr s s'
  hit : Hit s t

/-- a stage that made `t` successful attempts and holds `bl` -/
structure Done (s s' : St) (t : Nat) (bl : List Nat) : Prop where
  live : s'.live = bl ++ s.live
  fr : Fr s s'
  cnt : s'.cnt = s.cnt + t
  nohit : ¬ Hit s t

theorem Done.refl (s : St) : Done s s 0 [] := ⟨rfl, Fr.refl s, rfl, by unfold Hit; omega⟩

theorem Done.comp (h1 : Done a b t1 l1) (h2 : Done b c t2 l2) : Done a c (t1 + t2) (l2 ++ l1) := by
  refine ⟨by rw [h2.live, h1.live, List.append_assoc], h1.fr.trans h2.fr, ?_, ?_⟩
  · have := h1.cnt; have := h2.cnt; omega
  · have := h1.cnt; have := h1.fr.fa; have := h1.nohit; have := h2.nohit
    unfold Hit at *; omega

theorem Done.fail (h1 : Done a b t1 l1) (h2 : Failed b c t2 l2) : Failed a c (t1 + t2) (l2 ++ l1) := by
  refine ⟨by rw [h2.live, h1.live, List.append_assoc], h1.fr.trans h2.fr, ?_⟩
  have := h1.cnt; have := h1.fr.fa; have := h1.nohit; have := h2.hit
  unfold Hit at *; omega

theorem Failed.mono (h : Failed a b t l) (ht : t ≤ t') :
    Failed a b t' l := by
  refine ⟨h.live, h.fr, ?_⟩
  have := h.hit; unfold Hit at *; omega

theorem alloc_failed (h : alloc s = (none, s')) : Failed s s' 1 [] := by
  obtain ⟨e, _, l, f⟩ := alloc_spec h
  exact ⟨l, f.toFr, by unfold Hit; omega⟩

theorem alloc_done (h : alloc s = (some i, s')) : Done s s' 1 [i] := by
  obtain ⟨e, _, c, l, f⟩ := alloc_spec h
  exact ⟨l, f.toFr, c, by unfold Hit; omega⟩

theorem allocN_false (h : allocN k s = (false, ids, s')) :
    Failed s s' k ids := by
  have a := allocN_spec k s h
  exact ⟨a.live, a.fr.toFr, a.hit rfl⟩

theorem allocN_true (h : allocN k s = (true, ids, s')) :
    Done s s' k ids ∧ ids.length = k := by
  have a := allocN_spec k s h
  obtain ⟨c, n, nh⟩ := a.done rfl
  exact ⟨⟨a.live, a.fr.toFr, c, nh⟩, n⟩

theorem Failed.dropAll (h : Failed a b t (ids ++ l)) :
    Failed a (freeAll ids b) t l := by
  obtain ⟨e, _, f⟩ := freeAll_prefix ids b (l ++ a.live) (by rw [h.live, List.append_assoc])
  exact ⟨e, h.fr.trans f.toFr, h.hit⟩

/- `drop`, not `free`: in the statement of a later `Failed.*` lemma `free` would otherwise be this
lemma instead of the model's function. -/
theorem Failed.drop (h : Failed a b t (i :: l)) :
    Failed a (free i b) t l :=
  h.dropAll (ids := [i])

theorem Failed.assoc (h : Failed a b t ((l₁ ++ l₂) ++ l₃)) :
    Failed a b t (l₁ ++ (l₂ ++ l₃)) :=
  List.append_assoc l₁ l₂ l₃ ▸ h

/-- the error exit of `alloc_ctx` and of everything that has a context to drop -/
theorem Failed.unwindCtx {b : CtxBlocks} (h : Failed a s t (b.cb :: b.ax :: b.ctx :: l)) :
    Failed a (free b.ctx (axDecref b s)) t l :=
  h.drop.drop.drop

theorem allocCtx_spec {o : Option CtxBlocks} (h : allocCtx s = (o, s')) :
    match o with
    | none => Failed s s' 3 []
    | some b => Done s s' 3 [b.cb, b.ax, b.ctx] := by
  unfold allocCtx at h
  split at h
  · next s1 h1 =>
    cases h
    exact (alloc_failed h1).mono (by omega)
  · next c s1 h1 =>
    have d1 := alloc_done h1
    split at h
    · next s2 h2 =>
      cases h
      exact (d1.fail (alloc_failed h2)).drop.mono (by omega)
    · next ax s2 h2 =>
      have d2 := d1.comp (alloc_done h2)
      split at h
      · next s3 h3 =>
        cases h
        exact (d2.fail (alloc_failed h3)).drop.drop.mono (by omega)
      · next cb s3 h3 =>
        cases h
        exact d2.comp (alloc_done h3)

theorem xlatNew_spec {o : Option (Nat × Nat)} (h : xlatNew s = (o, s')) :
    match o with
    | none => Failed s s' 2 []
    | some p => Done s s' 2 [p.2, p.1] := by
  unfold xlatNew at h
  split at h
  · next s1 h1 =>
    cases h
    exact (alloc_failed h1).mono (by omega)
  · next c s1 h1 =>
    have d1 := alloc_done h1
    split at h
    · next s2 h2 =>
      cases h
      exact (d1.fail (alloc_failed h2)).drop
    · next sys s2 h2 =>
      cases h
      exact d1.comp (alloc_done h2)

theorem xlatClone_all (s : St) : xlatClone Fix.all s = xlatNew s := by
  unfold xlatClone
  split
  · next h => exact h.symm
  · rfl

theorem attrDictNew_spec {o : Option (Nat × List Nat)} (h : attrDictNew Fix.all g s = (o, s')) :
    match o with
    | none => Failed s s' (1 + g) []
    | some p => Done s s' (1 + g) (p.2 ++ [p.1]) ∧ p.2.length = g := by
  unfold attrDictNew at h
  split at h
  · next s1 h1 =>
    cases h
    exact (alloc_failed h1).mono (by omega)
  · next d s1 h1 =>
    have d1 := alloc_done h1
    split at h
    · next ids s2 h2 =>
      simp only [show Fix.all.attrDictUnwind = true from rfl, if_true] at h
      cases h
      exact (d1.fail (allocN_false h2)).dropAll.drop
    · next ids s2 h2 =>
      cases h
      have := allocN_true h2
      exact ⟨d1.comp this.1, this.2⟩

/-- a lock operation: only the holds change -/
structure Lk (s s' : St) (r w : Nat) : Prop where
  live : s'.live = s.live
  cnt : s'.cnt = s.cnt
  rd : s'.rd = r
  wr : s'.wr = w
  bad : s'.bad = s.bad
  sh : s'.shRef = s.shRef
  di : s'.dictRef = s.dictRef
  xr : s'.xlatRef = s.xlatRef
  fa : s'.failAt = s.failAt

theorem rdlock_lk (hr : s.rd = 0) (hw : s.wr = 0) : Lk s (rdlock s) 1 0 := by
  rw [rdlock_eq hw]
  exact ⟨rfl, rfl, congrArg (· + 1) hr, hw, rfl, rfl, rfl, rfl, rfl⟩

theorem wrlock_lk (hr : s.rd = 0) (hw : s.wr = 0) : Lk s (wrlock s) 0 1 := by
  rw [wrlock_eq hr hw]
  exact ⟨rfl, rfl, hr, rfl, rfl, rfl, rfl, rfl, rfl⟩

theorem unlock_wr {r : Nat} (hr : s.rd = r) (hw : s.wr = 1) : Lk s (unlock s) r 0 := by
  rw [unlock_wr_eq hw]
  exact ⟨rfl, rfl, hr, rfl, rfl, rfl, rfl, rfl, rfl⟩

theorem unlock_rd (hr : s.rd = 1) (hw : s.wr = 0) : Lk s (unlock s) 0 0 := by
  rw [unlock_rd_eq hr hw]
  exact ⟨rfl, rfl, rfl, hw, rfl, rfl, rfl, rfl, rfl⟩

theorem Lk.fr {s s' : St} (h : Lk s s' s.rd s.wr) : Fr s s' :=
  ⟨h.rd, h.wr, h.bad, h.sh, h.di, h.xr, h.fa⟩

/-- `shared_decref` of the last reference, by a thread that holds no lock -/
theorem Failed.sharedDecref {sh : Nat} (h : Failed a s t (sh :: l))
    (hr : a.rd = 0) (hw : a.wr = 0) : Failed a (sharedDecrefNew sh 1 s) t l := by
  unfold sharedDecrefNew
  simp only [if_true]
  rw [wrlock_eq (h.fr.rd.trans hr) (h.fr.wr.trans hw),
    unlock_wr_eq (s := { s with wr := 1, trace := .W :: s.trace }) rfl]
  have h' : Failed a { s with wr := 0, trace := .U :: .W :: s.trace } t (sh :: l) :=
    ⟨h.live, ⟨h.fr.rd, hw.symm, h.fr.bad, h.fr.sh, h.fr.di, h.fr.xr, h.fr.fa⟩, h.hit⟩
  exact h'.drop

def NewPost (s : St) (t : Nat) (r : Bool × St) : Prop :=
  (r.1 = false → Failed s r.2 t []) ∧
  (r.1 = true → ∃ bl, Done s r.2 t bl ∧ bl.length = t)

theorem NewPost.fail (h : Failed s s' t []) (ht : t ≤ t') :
    NewPost s t' (false, s') :=
  ⟨fun _ => h.mono ht, fun h => by cases h⟩

theorem kdumpNew_spec (g x : Nat) (s : St) (hr : s.rd = 0) (hw : s.wr = 0) :
    NewPost s (7 + g + x) (kdumpNew Fix.all g x s) := by
  unfold kdumpNew
  split
  · next s1 h1 =>
    exact NewPost.fail (allocCtx_spec h1) (by omega)
  · next b s1 h1 =>
    have d1 : Done s s1 3 [b.cb, b.ax, b.ctx] := allocCtx_spec h1
    split
    · next s2 h2 =>
      have f := (d1.fail (alloc_failed h2)).unwindCtx
      exact NewPost.fail f (by omega)
    · next sh s2 h2 =>
      have d2 := d1.comp (alloc_done h2)
      split
      · next s3 h3 =>
        have f := ((d2.fail (attrDictNew_spec h3)).sharedDecref hr hw).unwindCtx
        exact NewPost.fail f (by omega)
      · next d ids s3 h3 =>
        obtain ⟨d3', hlen⟩ := attrDictNew_spec h3
        have d3 := d2.comp d3'
        split
        · next ids2 s4 h4 =>
          -- err_dict: the attributes, the dictionary, then err_shared
          have f := (d3.fail (allocN_false h4)).dropAll.assoc.dropAll.drop
          have f := (f.sharedDecref hr hw).unwindCtx
          exact NewPost.fail f (by omega)
        · next ids2 s4 h4 =>
          obtain ⟨d4', hlen2⟩ := allocN_true h4
          have d4 := d3.comp d4'
          split
          · next s5 h5 =>
            have f := ((d4.fail (xlatNew_spec h5)).dropAll (ids := ids2)).assoc.dropAll.drop
            have f := (f.sharedDecref hr hw).unwindCtx
            exact NewPost.fail f (by omega)
          · next p s5 h5 =>
            have d5 := d4.comp (xlatNew_spec h5)
            have e : 3 + 1 + (1 + g) + x + 2 = 7 + g + x := by omega
            rw [e] at d5
            refine ⟨fun h => (by cases h), fun _ => ⟨_, d5, ?_⟩⟩
            simp at hlen hlen2 ⊢
            omega

variable {r w sh di xr r' w' d root : Nat} {slots : List Nat} {xl : Bool}

/- Lock operations and reference-count updates move the base along with the state. -/

theorem Done.lk (h : Done (a.set r w sh di xr) b t bl) (k : Lk b c r' w') :
    Done (a.set r' w' sh di xr) c t bl :=
  ⟨k.live.trans h.live, ⟨k.rd, k.wr, k.bad.trans h.fr.bad, k.sh.trans h.fr.sh, k.di.trans h.fr.di,
    k.xr.trans h.fr.xr, k.fa.trans h.fr.fa⟩, k.cnt.trans h.cnt, h.nohit⟩

theorem Failed.lk (h : Failed (a.set r w sh di xr) b t bl) (k : Lk b c r' w') :
    Failed (a.set r' w' sh di xr) c t bl :=
  ⟨k.live.trans h.live, ⟨k.rd, k.wr, k.bad.trans h.fr.bad, k.sh.trans h.fr.sh, k.di.trans h.fr.di,
    k.xr.trans h.fr.xr, k.fa.trans h.fr.fa⟩, h.hit⟩

theorem Done.refs (f g e : Nat → Nat) (h : Done (a.set r w sh di xr) b t bl) :
    Done (a.set r w (f sh) (g di) (e xr))
      { b with shRef := f b.shRef, dictRef := g b.dictRef, xlatRef := e b.xlatRef } t bl :=
  ⟨h.live, ⟨h.fr.rd, h.fr.wr, h.fr.bad, congrArg f h.fr.sh, congrArg g h.fr.di, congrArg e h.fr.xr, h.fr.fa⟩,
    h.cnt, h.nohit⟩

theorem Failed.refs (f g e : Nat → Nat) (h : Failed (a.set r w sh di xr) b t bl) :
    Failed (a.set r w (f sh) (g di) (e xr))
      { b with shRef := f b.shRef, dictRef := g b.dictRef, xlatRef := e b.xlatRef } t bl :=
  ⟨h.live, ⟨h.fr.rd, h.fr.wr, h.fr.bad, congrArg f h.fr.sh, congrArg g h.fr.di, congrArg e h.fr.xr, h.fr.fa⟩,
    h.hit⟩

def errSharedF (b : CtxBlocks) (slots : List Nat) (s : St) : St :=
  free b.ctx (axDecref b (unlock (freeAll slots { s with shRef := s.shRef - 1 })))

def dictFreeF (d root : Nat) (s : St) : St :=
  free d { free root s with dictRef := (free root s).dictRef - 1, shRef := (free root s).shRef - 1 }

/-- `attr_dict_free` of the cloned dictionary (no further attributes) -/
theorem dictFree_failed (h : Failed (a.set r w sh di xr) b t (root :: d :: l)) :
    Failed (a.set r w (sh - 1) (di - 1) xr) (dictFreeF d root b) t l :=
  (h.drop.refs (· - 1) (· - 1) (·)).drop

/-- the `err_shared` exit of `kdump_clone` -/
theorem errShared_failed {b : CtxBlocks} (h : Failed (a.set 0 1 sh di xr) s t (slots ++ [b.cb, b.ax, b.ctx])) :
    Failed (a.set 0 0 (sh - 1) di xr) (errSharedF b slots s) t [] := by
  have f := (h.refs (· - 1) (·) (·)).dropAll
  exact (f.lk (unlock_wr f.fr.rd f.fr.wr)).unwindCtx

def ClonePost (s : St) (xl : Bool) (t : Nat) (r : Bool × St) : Prop :=
  (r.1 = false → Failed s r.2 t []) ∧
  (r.1 = true → ¬ Hit s t ∧ r.2.live.length = s.live.length + t ∧ r.2.rd = s.rd ∧ r.2.wr = s.wr ∧
    r.2.bad = s.bad ∧ r.2.shRef = s.shRef + (if xl then 2 else 1) ∧ r.2.dictRef = s.dictRef + 1 ∧
    r.2.xlatRef = s.xlatRef + (if xl then 0 else 1))

theorem ClonePost.fail (h : Failed (s.set r w sh di xr) s' t [])
    (hr : s.rd = r) (hw : s.wr = w) (hsh : sh = s.shRef) (hdi : di = s.dictRef) (hxr : xr = s.xlatRef)
    (ht : t ≤ t') : ClonePost s xl t' (false, s') := by
  refine ⟨fun _ => ?_, fun h => (by cases h)⟩
  have h' := h.mono ht
  exact ⟨h'.live, ⟨h'.fr.rd.trans hr.symm, h'.fr.wr.trans hw.symm, h'.fr.bad, h'.fr.sh.trans hsh,
    h'.fr.di.trans hdi, h'.fr.xr.trans hxr, h'.fr.fa⟩, h'.hit⟩

theorem ClonePost.ok (h : Done (s.set r w sh di xr) s' t bl) (hl : bl.length = t)
    (hr : s.rd = r) (hw : s.wr = w) (hsh : sh = s.shRef + (if xl then 2 else 1))
    (hdi : di = s.dictRef + 1) (hxr : xr = s.xlatRef + (if xl then 0 else 1)) :
    ClonePost s xl t (true, s') := by
  refine ⟨fun h => (by cases h), fun _ => ?_⟩
  refine ⟨h.nohit, ?_, h.fr.rd.trans hr.symm, h.fr.wr.trans hw.symm, h.fr.bad, h.fr.sh.trans hsh,
    h.fr.di.trans hdi, h.fr.xr.trans hxr⟩
  have := h.live
  simp only [St.set] at this
  rw [this, List.length_append, hl]; omega

theorem kdumpClone_spec (xl : Bool) (k m : Nat) (s : St) (hr : s.rd = 0) (hw : s.wr = 0) :
    ClonePost s xl (if xl then 7 + k + m else 3 + k) (kdumpClone Fix.all xl k m s) := by
  generalize ht : (if xl then 7 + k + m else 3 + k) = t
  have ht3 : 3 + k ≤ t := by subst ht; split <;> omega
  unfold kdumpClone
  simp only [show Fix.all.cloneUnlock = true from rfl, show Fix.all.cloneUnwind = true from rfl, if_true,
    xlatClone_all]
  split
  · next s1 h1 =>
    have f : Failed (s.set s.rd s.wr s.shRef s.dictRef s.xlatRef) s1 3 [] := allocCtx_spec h1
    exact ClonePost.fail f rfl rfl rfl rfl rfl (by omega)
  · next b s1 h1 =>
    have d1 : Done (s.set s.rd s.wr s.shRef s.dictRef s.xlatRef) s1 3 [b.cb, b.ax, b.ctx] := allocCtx_spec h1
    have d2 := d1.lk (rdlock_lk (d1.fr.rd.trans hr) (d1.fr.wr.trans hw))
    split
    · next slots s2 h2 =>
      have f2 := (d2.fail (allocN_false h2)).dropAll
      have f3 := (f2.lk (unlock_rd f2.fr.rd f2.fr.wr)).unwindCtx
      exact ClonePost.fail f3 hr hw rfl rfl rfl (by omega)
    · next slots s2 h2 =>
      obtain ⟨d3', hlen⟩ := allocN_true h2
      have d3 := d2.comp d3'
      have d4 := d3.lk (unlock_rd d3.fr.rd d3.fr.wr)
      have d5 := d4.lk (wrlock_lk d4.fr.rd d4.fr.wr)
      have d6 := d5.refs (· + 1) (·) (·)
      cases xl
      · simp only [Bool.false_eq_true, if_false] at ht
        subst ht
        have d7 := d6.refs (·) (· + 1) (· + 1)
        have d8 := d7.lk (unlock_wr d7.fr.rd d7.fr.wr)
        refine ClonePost.ok d8 ?_ hr hw (by simp) rfl (by simp)
        simp
        omega
      · simp only [if_true] at ht
        subst ht
        simp only [Bool.not_true, Bool.false_eq_true, if_false]
        split
        · next s3 h3 =>
          have f : Failed _ s3 _ (slots ++ [b.cb, b.ax, b.ctx]) := d6.fail (alloc_failed h3)
          exact ClonePost.fail (errShared_failed f) hr hw (by omega) rfl rfl (by omega)
        · next d s3 h3 =>
          have e1 := d6.comp (alloc_done h3)
          split
          · next s4 h4 =>
            have f := (e1.fail (alloc_failed h4)).drop
            exact ClonePost.fail (errShared_failed f) hr hw (by omega) rfl rfl (by omega)
          · next root s4 h4 =>
            have e3 := (e1.comp (alloc_done h4)).refs (· + 1) (· + 1) (·)
            split
            · next s5 h5 =>
              have f : Failed _ s5 _ (root :: d :: (slots ++ [b.cb, b.ax, b.ctx])) := e3.fail (xlatNew_spec h5)
              exact ClonePost.fail (errShared_failed (dictFree_failed f)) hr hw (by omega) (by omega) rfl (by omega)
            · next xo sys s5 h5 =>
              have e4 := e3.comp (xlatNew_spec h5)
              split
              · next ids s6 h6 =>
                -- err_xlat: the cloned attributes and the translation, then err_dict, err_shared
                have f := (e4.fail (allocN_false h6)).dropAll.drop.drop
                exact ClonePost.fail (errShared_failed (dictFree_failed f)) hr hw (by omega) (by omega) rfl (by omega)
              · next ids s6 h6 =>
                obtain ⟨e5', hl5⟩ := allocN_true h6
                have e5 := e4.comp e5'
                have e6 := e5.lk (unlock_wr e5.fr.rd e5.fr.wr)
                have e : 3 + k + 1 + 1 + 2 + m = 7 + k + m := by omega
                rw [e] at e6
                refine ClonePost.ok e6 ?_ hr hw (by simp) (by omega) (by simp)
                simp
                omega
end Kdf.Lemmas.Oom
