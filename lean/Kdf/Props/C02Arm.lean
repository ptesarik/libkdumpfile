import Kdf.Model.Pgt
import Kdf.Model.PgtArch
import Kdf.Spec.ArchArm
import Kdf.Lemmas.PgtWalk
/-!
# C02 for 32-bit Arm (short descriptors): the model of the library's walk equals
the architectural specification `Kdf.Spec.ArchArm.specArm`

`level1` and `level2` follow the two lookups through the loop of `addrxlat_walk`.
-/

namespace Kdf.Props.C02Arm
open Kdf.Model.Pgt Kdf.Model.PgtArch Kdf.Model.PgtArm Kdf.Spec.ArchArm Kdf.Lemmas.PgtWalk
open Kdf.Spec.ArchWalk (spanBits)

theorem pgtArm_eq (mem : Mem) (t pteMask : Nat) (pf : PagingForm) (s : Step) :
    pgtArm mem t pteMask pf s =
      match mem s.base.as s.base.addr 4 with
      | .error e => .error e
      | .ok v =>
        let d := v &&& ((W - 1) ^^^ pteMask % W)
        let s1 : Step := { s with raw := v, base := { s.base with as := t } }
        if d % 4 = 0 then .error .notpresent
        else if s.remain > 1 then
          if d % 4 = 1 then .ok { s1 with base := ⟨clearLow d 10, t⟩ }
          else if d / 2^18 % 2 = 0 then .ok (hugePage pf { s1 with base := ⟨clearLow d 20, t⟩ })
          else .ok (hugePage pf { addOverlap pf s1 4 with
                 base := ⟨clearLow d 24 ||| ((d / 2^20 % 2^4 * 2^32) % W) ||| ((d / 2^5 % 2^4 * 2^36) % W), t⟩ })
        else
          if d % 4 = 1 then .ok { addOverlap pf s1 4 with base := ⟨clearLow d 16, t⟩, elemsz := 1 }
          else .ok { s1 with base := ⟨clearLow d 12, t⟩, elemsz := 1 } := by
  unfold pgtArm readPte
  cases mem s.base.as s.base.addr 4 with
  | error e => rfl
  | ok v =>
    generalize hd : (v &&& ((W - 1) ^^^ pteMask % W)) = d
    simp only [bits, Nat.pow_zero, Nat.div_one, hd]
    by_cases h0 : d % 4 = 0
    · simp [h0, bind, Except.bind, throw, throwThe, MonadExceptOf.throw]
    · by_cases h1 : d % 4 = 1 <;> by_cases hr : 1 < s.remain <;> by_cases h18 : d / 262144 % 2 = 0 <;>
        simp [h0, h1, hr, h18, bind, Except.bind, pure, Except.pure]

theorem nextStep_arm (mem : Mem) (t : Nat) (root : FullAddr) (pteMask : Nat) (f : List Nat) (s : Step) :
    nextStep extra mem (.pgt t root pteMask ⟨.arm, f⟩) s = pgtArm mem t pteMask ⟨.arm, f⟩ s := rfl

/-- supersection base: `[31:24]` in place, `[23:20]`, `[8:5]` at bits 32, 36 -/
def superAddr (d : Nat) : Nat := d / 2^24 % 2^8 * 2^24 + d / 2^20 % 2^4 * 2^32 + d / 2^5 % 2^4 * 2^36

theorem decodeL1_eq (d : Nat) :
    decodeL1 d =
      if d % 4 = 0 then .fault
      else if d % 4 = 1 then .pageTable (d / 2^10 % 2^22 * 2^10)
      else if d / 2^18 % 2 = 0 then .block 20 (d / 2^20 % 2^12 * 2^20)
      else .block 24 (superAddr d) := by
  unfold decodeL1 field superAddr; rw [Nat.pow_zero, Nat.div_one]

theorem decodeL2_eq (d : Nat) :
    decodeL2 d =
      if d % 4 = 0 then .fault
      else if d % 4 = 1 then .page 16 (d / 2^16 % 2^16 * 2^16)
      else .page 12 (d / 2^12 % 2^20 * 2^12) := by
  unfold decodeL2 field; rw [Nat.pow_zero, Nat.div_one]

theorem clearLow_add (d n m x : Nat) (hd : d < 2^32) (hnm : m + n = 32) (hx : x < 2^n) :
    (clearLow d n + x) % W = d / 2^n % 2^m * 2^n + x := by
  have h1 : d / 2^n < 2^m := by
    rw [Nat.div_lt_iff_lt_mul (Nat.two_pow_pos n), ← Nat.pow_add, hnm]; exact hd
  have h2 : d / 2^n * 2^n ≤ d := Nat.div_mul_le_self d (2^n)
  have h3 : 2^n ≤ 2^32 := Nat.pow_le_pow_right (by decide) (by omega)
  rw [Nat.mod_eq_of_lt h1, clearLow, Nat.mod_eq_of_lt]
  show _ < 2^64
  omega

theorem superAddr_eq (d : Nat) (hd : d < 2^32) :
    clearLow d 24 ||| (d / 2^20 % 2^4 * 2^32 % W) ||| (d / 2^5 % 2^4 * 2^36 % W) = superAddr d := by
  unfold superAddr
  have hx : d / 2^20 % 2^4 < 2^4 := Nat.mod_lt _ (by decide)
  have hy : d / 2^5 % 2^4 < 2^4 := Nat.mod_lt _ (by decide)
  rw [Nat.mod_eq_of_lt (mul_pow_lt hx (by decide)), Nat.mod_eq_of_lt (mul_pow_lt hy (by decide))]
  generalize d / 2^20 % 2^4 = x at hx ⊢
  generalize d / 2^5 % 2^4 = y at hy ⊢
  unfold clearLow
  rw [or_eq_add' _ _ 32 (by omega), or_eq_add' _ _ 36 (by omega)]
  omega

/-- what `add_overlap` makes of two adjacent indices -/
theorem overlap (A f n : Nat) (h : f + n ≤ 64) :
    (A % 2^f + A / 2^f % 2^n * 2^f % W) % W = A % 2^(f + n) := by
  have h1 := mul_pow_lt (Nat.mod_lt (A / 2^f) (Nat.two_pow_pos n)) (show n + f ≤ 64 by omega)
  rw [Nat.mod_eq_of_lt h1, Nat.add_comm, mod_split]
  exact Nat.mod_eq_of_lt (Nat.lt_of_lt_of_le (Nat.mod_lt _ (Nat.two_pow_pos _))
    (Nat.pow_le_pow_right (by decide) h))

theorem idx_entries {k va : Nat} {idx : List Nat} (h : IdxOK ⟨.arm, [12, 8, k]⟩ va idx) :
    idx.getD 0 0 = va % 2^12 ∧ idx.getD 1 0 = va / 2^12 % 2^8 ∧ idx.getD 2 0 = va / 2^20 % 2^k ∧
      3 < idx.length := by
  exact ⟨h.zero (by simp), h.2 1 (by simp), h.2 2 (by simp), h.1⟩

theorem fold_two (A f d : Nat) (h : f + d ≤ 64) :
    A % 2^f ||| A / 2^f % 2^d * 2^f % W = A % 2^(f + d) := by
  have h1 := mul_pow_lt (Nat.mod_lt (A / 2^f) (Nat.two_pow_pos d)) (show d + f ≤ 64 by omega)
  rw [Nat.mod_eq_of_lt h1, or_eq_add' _ _ _ (Nat.mod_lt _ (Nat.two_pow_pos _)), Nat.add_comm, mod_split]

theorem hugePage_two (pf : PagingForm) (s : Step) (h : s.remain = 2) :
    hugePage pf s = { s with remain := 1, elemsz := 1,
                             idx := s.idx.set 0 (s.idx.getD 0 0 ||| s.idx.getD 1 0 * 2^(fieldAt pf 0) % W) } := by
  unfold hugePage
  simp [h, hugePage.go, setIdx, idxAt]

section
variable (mem : Mem) (t : Nat) (root : FullAddr) (pteMask k va : Nat)

theorem level2 (fuel d1 : Nat) (s : Step)
    (hmask : pteMask < W) (hmem : ∀ as a v, mem as a 4 = .ok v → v < 2^32)
    (hrem : s.remain = 2) (hel : s.elemsz = 4) (hidx : IdxOK ⟨.arm, [12, 8, k]⟩ va s.idx)
    (hd1 : d1 < 2^32) (hbase : s.base = ⟨clearLow d1 10, t⟩) :
    (walkLoop extra mem (.pgt t root pteMask ⟨.arm, [12, 8, k]⟩) (fuel + 2) s).map (·.base) =
      match mem t (d1 / 2^10 % 2^22 * 2^10 + va / 2^12 % 2^8 * 4) 4 with
      | .error e => .error e
      | .ok raw2 =>
        match decodeL2 (raw2 &&& ((W - 1) ^^^ pteMask)) with
        | .fault => .error .notpresent
        | .page k pa => .ok ⟨pa + va % 2^k, t⟩ := by
  obtain ⟨h0, h1, _, hlen⟩ := idx_entries hidx
  rw [walkLoop_step extra mem _ (fuel + 1) 0 s hrem, nextStep_arm, pgtArm_eq]
  have hl0 : 0 < s.idx.length := by omega
  simp only [idxAt, h1, hel, hbase, Nat.mod_eq_of_lt hmask, Nat.zero_add, gt_iff_lt, Nat.lt_irrefl, if_false,
    clearLow_add d1 10 22 _ hd1 rfl (show va / 2^12 % 2^8 * 4 < 2^10 by omega)]
  cases hm : mem t (d1 / 2^10 % 2^22 * 2^10 + va / 2^12 % 2^8 * 4) 4 with
  | error e => rfl
  | ok v =>
    have hd := Nat.lt_of_le_of_lt (Nat.and_le_left (m := (W - 1) ^^^ pteMask)) (hmem _ _ _ hm)
    dsimp only
    generalize v &&& ((W - 1) ^^^ pteMask) = d at hd ⊢
    rw [decodeL2_eq]
    by_cases g0 : d % 4 = 0
    · simp only [g0, if_true]; rfl
    · simp only [g0, if_false]
      by_cases g1 : d % 4 = 1
      · -- large page: `idx[0]` absorbs the low four bits of `idx[1]`
        simp only [g1, if_true]
        rw [walkLoop_last extra mem _ fuel _ rfl]
        simp only [Except.map, addOverlap, setIdx, idxAt, fieldAt, Nat.sub_self, List.getD_cons_zero,
          getD_set_self _ _ _ hl0, h0, h1, Nat.mul_one, Meth.targetAs,
          Nat.mod_mod_of_dvd _ (Nat.pow_dvd_pow 2 (show 4 ≤ 8 by decide)), overlap va 12 4 (by decide)]
        rw [clearLow_add d 16 16 _ hd rfl (Nat.mod_lt _ (Nat.two_pow_pos _))]
      · -- small page
        simp only [g1, if_false]
        refine (walkLoop_page extra mem _ ⟨.arm, [12, 8, k]⟩ va fuel
          { base := ⟨clearLow d 12, t⟩, remain := 1, elemsz := 1, idx := s.idx, raw := v }
          hidx (by simp) rfl rfl).trans ?_
        show Except.ok (⟨(clearLow d 12 + va % 2^12) % W, t⟩ : FullAddr) = _
        rw [clearLow_add d 12 20 _ hd rfl (Nat.mod_lt _ (Nat.two_pow_pos _))]

theorem level1 (fuel : Nat) (s : Step)
    (hva : va / 2^20 < 2^k) (hmask : pteMask < W) (hmem : ∀ as a v, mem as a 4 = .ok v → v < 2^32)
    (hrem : s.remain = 3) (hel : s.elemsz = 4) (hidx : IdxOK ⟨.arm, [12, 8, k]⟩ va s.idx) :
    (walkLoop extra mem (.pgt t root pteMask ⟨.arm, [12, 8, k]⟩) (fuel + 3) s).map (·.base) =
      tableWalk mem t s.base pteMask va := by
  have e20 : va / 2^20 = va / 2^12 / 2^8 := by omega
  obtain ⟨h0, h1, h2, hlen⟩ := idx_entries hidx
  rw [Nat.mod_eq_of_lt hva] at h2
  rw [walkLoop_step extra mem _ (fuel + 2) 1 s hrem, nextStep_arm, pgtArm_eq, tableWalk]
  simp only [idxAt, h2, hel, Nat.mod_eq_of_lt hmask]
  cases hm : mem s.base.as ((s.base.addr + va / 2^20 * 4) % W) 4 with
  | error e => rfl
  | ok v =>
    have hd := Nat.lt_of_le_of_lt (Nat.and_le_left (m := (W - 1) ^^^ pteMask)) (hmem _ _ _ hm)
    dsimp only
    generalize v &&& ((W - 1) ^^^ pteMask) = d at hd ⊢
    rw [decodeL1_eq]
    by_cases g0 : d % 4 = 0
    · simp only [g0, if_true]; rfl
    · simp only [g0, if_false, if_pos (show 1 + 1 > 1 by decide)]
      by_cases g1 : d % 4 = 1
      · simp only [g1, if_true]
        exact level2 mem t root pteMask k va fuel d _ hmask hmem rfl rfl hidx hd rfl
      · simp only [g1, if_false]
        by_cases h18 : d / 2^18 % 2 = 0
        · -- section
          simp only [h18, if_true]
          refine (walkLoop_huge extra mem _ ⟨.arm, [12, 8, k]⟩ va (fuel + 1) 2
            { base := ⟨clearLow d 20, t⟩, remain := 2, elemsz := 4, idx := s.idx, raw := v } hidx rfl (by decide) (by simp) (by simp [spanBits])).trans ?_
          show Except.ok (⟨(clearLow d 20 + va % 2^20) % W, t⟩ : FullAddr) = _
          rw [clearLow_add d 20 12 _ hd rfl (Nat.mod_lt _ (Nat.two_pow_pos _))]
        · -- supersection: `idx[1]` absorbs the low four bits of `idx[2]`
          simp only [h18, if_false]
          have hov : (s.idx.getD 1 0 + s.idx.getD 2 0 % 2^4 * 2^8 % W) % W = va / 2^12 % 2^12 := by
            rw [h1, h2, e20]
            exact overlap (va / 2^12) 8 4 (by decide)
          have hl0 : 0 < (s.idx.set 1 (va / 2^12 % 2^12)).length := by rw [List.length_set]; omega
          simp only [addOverlap, setIdx, idxAt, fieldAt, Nat.reduceAdd, List.getD_cons_succ,
            List.getD_cons_zero, hov]
          rw [hugePage_two _ _ rfl, walkLoop_last extra mem _ (fuel + 1) _ rfl]
          simp only [Except.map, idxAt, fieldAt, List.getD_cons_zero, getD_set_self _ _ _ hl0,
            getD_set_ne _ _ (show 1 ≠ 0 by decide), getD_set_self _ _ _ (show 1 < s.idx.length by omega), h0,
            fold_two va 12 12 (by decide), superAddr_eq d hd, Nat.mul_one, Meth.targetAs]
          rw [Nat.mod_eq_of_lt]
          show superAddr d + _ < 2^64
          unfold superAddr
          omega

theorem form_case (hk : k ≤ 12) (hmask : pteMask < W)
    (hmem : ∀ as a size v, mem as a size = .ok v → v < 2^(8*size))
    (hdev : knownDeviation ⟨.arm, [12, 8, k]⟩ va = false) :
    (walk extra mem (.pgt t root pteMask ⟨.arm, [12, 8, k]⟩) va).map (·.base)
      = specArm mem t root pteMask ⟨.arm, [12, 8, k]⟩ va := by
  have hN : 32 - ttbcrN ⟨.arm, [12, 8, k]⟩ = 20 + k := by show 32 - (12 - k) = 20 + k; omega
  have hlt : va < 2^(20 + k) := by
    rw [knownDeviation, decide_eq_false_iff_not, hN] at hdev; omega
  unfold specArm
  by_cases hr : root.as = NOADDR
  · simp only [walk, firstStep, firstStepPgtGeneric, hr, if_true]; rfl
  · rw [if_neg hr, hN, if_neg (by omega)]
    have hdiv : va / 2^20 < 2^k := by
      rw [Nat.div_lt_iff_lt_mul (by decide), ← Nat.pow_add, Nat.add_comm]; exact hlt
    unfold walk
    simp only [firstStep, firstStepPgtGeneric, hr, if_false]
    rw [if_neg (by simp)]
    apply level1 mem t root pteMask k va 1 _ hdiv hmask (fun as a v h => hmem as a 4 v h) rfl rfl
      (idxOK_first ⟨.arm, [12, 8, k]⟩ va (by simp; omega))

end

/-- **C02 (32-bit Arm)**: on every architecturally defined paging form, the
library's page-table walk (model of `addrxlat_walk`, `first_step_pgt_generic`,
`pgt_arm`, `pgt_huge_page`) computes exactly the architectural translation, outside the
recorded class `arm-va-range` (`knownDeviation`: `va ≥ 2^(32-N)`). -/
theorem walk_eq_spec_arm (mem : Mem) (t : Nat) (root : FullAddr) (pteMask : Nat) (pf : PagingForm) (va : Nat)
    (hpf : archFormArm pf = true) (_hva : va < W) (_hroot : root.addr < W) (hmask : pteMask < W)
    (hmem : ∀ as a size v, mem as a size = .ok v → v < 2^(8*size))
    (hdev : knownDeviation pf va = false) :
    (walk extra mem (.pgt t root pteMask pf) va).map (·.base) = specArm mem t root pteMask pf va := by
  obtain ⟨fmt, fs⟩ := pf
  simp only [archFormArm, Bool.and_eq_true, Bool.or_eq_true, decide_eq_true_eq] at hpf
  obtain ⟨hf, hfs⟩ := hpf
  subst hf
  rcases hfs with ((((((h | h) | h) | h) | h) | h) | h) | h <;> subst h <;>
    exact form_case mem t root pteMask _ va (by omega) hmask hmem hdev

end Kdf.Props.C02Arm
