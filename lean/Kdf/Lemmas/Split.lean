import Kdf.Model.Flat
/-! Split-file lookup (C11 helper lemmas): sorting by `end_pfn` makes the order
in which the files were passed irrelevant. -/
namespace Kdf.Lemmas.Split
open Kdf.Model.Flat
open Kdf.Model.Pfn (Region findRegion)

/-- what a split file contributes, independent of the position at which it is passed -/
structure Body where
  startPfn : Nat
  endPfn : Nat
  regions : List Region
  deriving DecidableEq, Repr

/-- the `pdmap[]` array before sorting: file `i` of the passed order gets `fidx = i` -/
def indexFrom : List Body → Nat → List SFile
  | [], _ => []
  | b :: bs, i => ⟨i, b.startPfn, b.endPfn, b.regions⟩ :: indexFrom bs (i + 1)

def index (bs : List Body) : List SFile := indexFrom bs 0

def bodyOf (m : SFile) : Body := ⟨m.startPfn, m.endPfn, m.regions⟩

/-- all `end_pfn` values are different -/
def DistinctEnds (bs : List Body) : Prop := bs.Pairwise (fun a b => a.endPfn ≠ b.endPfn)

theorem insertSorted_perm (x : SFile) (l : List SFile) : (insertSorted x l).Perm (x :: l) := by
  induction l with
  | nil => exact List.Perm.refl _
  | cons y ys ih =>
    simp only [insertSorted]
    split
    · exact List.Perm.refl _
    · exact (List.Perm.cons y ih).trans (List.Perm.swap x y ys)

theorem sort_perm (l : List SFile) : (sortFiles l).Perm l := by
  induction l with
  | nil => exact List.Perm.refl _
  | cons x xs ih => exact (insertSorted_perm x _).trans (List.Perm.cons x ih)

theorem insertSorted_sorted (x : SFile) (l : List SFile)
    (h : l.Pairwise (fun a b => a.endPfn ≤ b.endPfn)) :
    (insertSorted x l).Pairwise (fun a b => a.endPfn ≤ b.endPfn) := by
  induction l with
  | nil => simp [insertSorted]
  | cons y ys ih =>
    rw [List.pairwise_cons] at h
    simp only [insertSorted]
    split
    · rename_i hlt
      refine List.pairwise_cons.mpr ⟨fun b hb => ?_, List.pairwise_cons.mpr h⟩
      rcases List.mem_cons.mp hb with rfl | hb
      · omega
      · have := h.1 b hb; omega
    · rename_i hge
      refine List.pairwise_cons.mpr ⟨fun b hb => ?_, ih h.2⟩
      rcases List.mem_cons.mp ((insertSorted_perm x ys).mem_iff.mp hb) with rfl | hb'
      · omega
      · exact h.1 b hb'

theorem sort_sorted (l : List SFile) : (sortFiles l).Pairwise (fun a b => a.endPfn ≤ b.endPfn) := by
  induction l with
  | nil => simp [sortFiles]
  | cons x xs ih => exact insertSorted_sorted x _ ih

theorem indexFrom_map (bs : List Body) (i : Nat) : (indexFrom bs i).map bodyOf = bs := by
  induction bs generalizing i with
  | nil => rfl
  | cons b bs ih => simp only [indexFrom, List.map_cons, ih]; rfl

theorem mem_indexFrom (bs : List Body) (i : Nat) (m : SFile) (hm : m ∈ indexFrom bs i) :
    i ≤ m.fidx ∧ bs[m.fidx - i]? = some (bodyOf m) := by
  induction bs generalizing i with
  | nil => cases hm
  | cons b bs ih =>
    simp only [indexFrom] at hm
    rcases List.mem_cons.mp hm with rfl | hm
    · refine ⟨Nat.le_refl _, ?_⟩
      simp [bodyOf]
    · obtain ⟨h1, h2⟩ := ih (i + 1) hm
      refine ⟨by omega, ?_⟩
      have : m.fidx - i = (m.fidx - (i + 1)) + 1 := by omega
      rw [this, List.getElem?_cons_succ]
      exact h2

/-- every element of the sorted array still points at its own file -/
theorem sort_fidx (bs : List Body) (m : SFile) (hm : m ∈ sortFiles (index bs)) :
    bs[m.fidx]? = some (bodyOf m) :=
  (mem_indexFrom bs 0 m ((sort_perm (index bs)).mem_iff.mp hm)).2

theorem sort_bodies_perm (bs : List Body) : ((sortFiles (index bs)).map bodyOf).Perm bs := by
  have h := (sort_perm (index bs)).map bodyOf
  rwa [index, indexFrom_map] at h

theorem distinctEnds_inj {bs : List Body} (hd : DistinctEnds bs) {a b : Body} (ha : a ∈ bs) (hb : b ∈ bs)
    (hk : a.endPfn = b.endPfn) : a = b := by
  induction bs with
  | nil => cases ha
  | cons c t ih =>
    rw [DistinctEnds, List.pairwise_cons] at hd
    rcases List.mem_cons.mp ha with rfl | ha' <;> rcases List.mem_cons.mp hb with rfl | hb'
    · rfl
    · exact absurd hk (hd.1 b hb')
    · exact absurd hk.symm (hd.1 a ha')
    · exact ih hd.2 ha' hb'

/-- the sorted array, seen as bodies, depends only on the *set* of files -/
theorem sort_bodies_eq_of_perm (bs1 bs2 : List Body) (hp : bs1.Perm bs2) (hd : DistinctEnds bs1) :
    (sortFiles (index bs1)).map bodyOf = (sortFiles (index bs2)).map bodyOf := by
  have sorted : ∀ bs, ((sortFiles (index bs)).map bodyOf).Pairwise (fun a b => a.endPfn ≤ b.endPfn) :=
    fun bs => List.pairwise_map.mpr (sort_sorted _)
  refine List.Perm.eq_of_pairwise (le := fun a b : Body => a.endPfn ≤ b.endPfn) ?_ (sorted bs1) (sorted bs2)
    ((sort_bodies_perm bs1).trans (hp.trans (sort_bodies_perm bs2).symm))
  intro a b ha hb h1 h2
  exact distinctEnds_inj hd ((sort_bodies_perm bs1).mem_iff.mp ha)
    (hp.mem_iff.mpr ((sort_bodies_perm bs2).mem_iff.mp hb)) (Nat.le_antisymm h1 h2)

theorem findFile_eq_find? (l : List SFile) (pfn : Nat) :
    findFile l pfn = l.find? fun m => decide (pfn < m.endPfn) := by
  induction l with
  | nil => rfl
  | cons m ms ih => by_cases h : pfn < m.endPfn <;> simp [findFile, h, ih]

theorem findFile_mem (l : List SFile) (pfn : Nat) (m : SFile) (h : findFile l pfn = some m) :
    m ∈ l ∧ pfn < m.endPfn := by
  rw [findFile_eq_find?] at h
  exact ⟨List.mem_of_find?_eq_some h,
    of_decide_eq_true (List.find?_some (p := fun m : SFile => decide (pfn < m.endPfn)) h)⟩

theorem findFile_map (l : List SFile) (pfn : Nat) :
    (findFile l pfn).map bodyOf = (l.map bodyOf).find? fun b => decide (pfn < b.endPfn) := by
  rw [findFile_eq_find?, List.find?_map]
  rfl

/-- `pfn_to_pdpos` in the file found; `none` = excluded -/
def pdPos (startPfn : Nat) (regions : List Region) (pfn : Nat) : Option Nat :=
  if startPfn ≤ pfn then
    match findRegion regions pfn with
    | some r => if pfn ≥ r.pfn then some (r.pos + (pfn - r.pfn) * PDSZ) else none
    | none => none
  else none

theorem pdLookup_eq (maps : List SFile) (maxPfn pfn : Nat) :
    pdLookup maps maxPfn pfn =
      if pfn ≥ maxPfn then none
      else (findFile maps pfn).bind fun m => (pdPos m.startPfn m.regions pfn).map fun pos => (m.fidx, pos) := by
  unfold pdLookup
  split
  · rfl
  · cases findFile maps pfn with
    | none => rfl
    | some m =>
      simp only [Option.bind_some, pdPos]
      by_cases hs : m.startPfn ≤ pfn
      · rw [if_pos hs, if_pos hs]
        cases findRegion m.regions pfn with
        | none => rfl
        | some r =>
          simp only
          by_cases hr : pfn ≥ r.pfn
          · rw [if_pos hr, if_pos hr]; rfl
          · rw [if_neg hr, if_neg hr]; rfl
      · rw [if_neg hs, if_neg hs]; rfl

/-- the lookup in a sorted array, read as (content, position), depends on the bodies only -/
theorem pdLookup_sorted (bs : List Body) (maxPfn pfn : Nat) :
    (pdLookup (sortFiles (index bs)) maxPfn pfn).map (fun r => (bs[r.1]?, r.2)) =
      if pfn ≥ maxPfn then none
      else (((sortFiles (index bs)).map bodyOf).find? fun b => decide (pfn < b.endPfn)).bind
        fun b => (pdPos b.startPfn b.regions pfn).map fun pos => (some b, pos) := by
  rw [pdLookup_eq, ← findFile_map]
  split
  · rfl
  · cases e : findFile (sortFiles (index bs)) pfn with
    | none => rfl
    | some m =>
      have hm := sort_fidx bs m (findFile_mem _ _ _ e).1
      cases h : pdPos m.startPfn m.regions pfn <;> simp [bodyOf, h, hm]

end Kdf.Lemmas.Split
