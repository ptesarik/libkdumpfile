import Kdf.Model.Bounds
import Kdf.Lemmas.Bounds
/-!
# C03 — no byte sequence offered as a dump can crash or corrupt the process

PARTIAL.  The full statement — *for every byte string offered as a dump, every
call of open / read / attribute enumeration / page-map query performs no invalid
memory access and no division by zero, returns a documented status, and returns
within time proportional to the size of the input* — quantifies over the whole
library (12 000 lines of C); no model of that size exists, so it is not proved.
What is proved here, over ALL field values / byte strings and without bounds, is
the same statement for the parsing steps whose indices and loop counts come
from the file, on the models of `Kdf.Model.Bounds` (each tied to the real
function by the `bounds` correspondence stream on every run):

* `…_in_bounds`  : the model never reaches its distinguished `oob` result, i.e.
  every access index + width stays inside the actual buffer;
* `…_terminates` : the loop ends within the stated number of iterations, which is
  linear in the size of the input;
* no zero divisor / no undefined shift count is ever used.
Everything else is enumerated and fuzzed under sanitizers (stream `hostile`) —
evidence, not proof.
-/
namespace Kdf.Props.C03
open Kdf.Model.Bounds Kdf.Lemmas.Bounds

/-! ### uncompress_rle -/

/-- Every read of `src` is inside `src[0,len)` and every write inside `dst[0,cap)`, for all inputs. -/
theorem rle_in_bounds (src : List Nat) (cap : Nat) : rle src cap ≠ .oob :=
  fun h => (h ▸ rle_good src cap : RleGood cap .oob)

/-- The loop ends after at most `src.length` iterations. -/
theorem rle_terminates (src : List Nat) (cap : Nat) : rle src cap ≠ .fuel :=
  fun h => (h ▸ rle_good src cap : RleGood cap .fuel)

/-- On success the reported length is the number of bytes written and does not exceed the buffer. -/
theorem rle_ok_len (src : List Nat) (cap n : Nat) (out : List Nat) (h : rle src cap = .ok n out) :
    out.length = n ∧ n ≤ cap :=
  (h ▸ rle_good src cap : RleGood cap (.ok n out))

example : rle [0, 3, 7, 5, 0, 0] 5 = .ok 5 [7, 7, 7, 5, 0] := by decide
example : rle [0, 3, 7, 5] 3 = .err := by decide          -- literal with no room left
example : rle [0, 4, 7] 3 = .err := by decide             -- run one longer than the room left
example : rle [9, 0] 8 = .err := by decide                -- stream ends inside an escape

/-! ### do_notes -/

/-- The note header and everything handed to the callback lie inside the note buffer. -/
theorem notes_in_bounds (rd32 : Nat → Nat) (total : Nat) : notes rd32 total ≠ .oob :=
  fun h => (h ▸ notes_good rd32 total : NotesGood total .oob)

/-- At most `total / 12 + 1` iterations. -/
theorem notes_terminates (rd32 : Nat → Nat) (total : Nat) : notes rd32 total ≠ .fuel :=
  fun h => (h ▸ notes_good rd32 total : NotesGood total .fuel)

/-- Name and descriptor of every reported note lie inside the buffer. -/
theorem notes_ranges (rd32 : Nat → Nat) (total : Nat) (ns : List Note) (h : notes rd32 total = .done ns) :
    ∀ n ∈ ns, 12 ≤ n.nameOff ∧ n.nameOff + n.namesz ≤ total ∧ n.descOff + n.descsz ≤ total :=
  (h ▸ notes_good rd32 total : NotesGood total (.done ns))

example : notes (fun p => if p = 0 then 5 else if p = 4 then 6 else if p = 8 then 1 else 0) 28
    = .done [⟨1, 12, 5, 20, 6⟩] := by decide
example : notes (fun p => if p = 0 then 0xffffffff else 0) 28 = .done [] := by decide

/-! ### diskdump: try_header / read_bitmap -/

/- `block_size` is an `int32_t`: the hypothesis `-2^31 ≤ bs` of `dd_header_accept` is the range of
that type, not a restriction.  Over unbounded `Int` the statement would be false — a negative
value whose 64-bit cast lands in the page-size window passes the model's check: -/
example : tryHeader (-18446744073709547520) 1 0 = true ∧ ¬ (0 : Int) ≤ -18446744073709547520 := by decide

/-- What an accepted header guarantees (`block_size` in the range of `int32_t`). -/
theorem dd_header_accept (bs : Int) (blocks mapnr : Nat) (hbs : -2^31 ≤ bs) (hb : blocks < 2^32)
    (h : tryHeader bs blocks mapnr = true) :
    0 ≤ bs ∧ MIN_PAGE_SIZE ≤ bs.toNat ∧ bs.toNat ≤ MAX_PAGE_SIZE ∧ mapnr ≤ 8 * blocks * bs.toNat := by
  unfold tryHeader at h
  by_cases hneg : bs < 0
  · -- `(unsigned long) block_size` of a negative `int32_t` is far above `MAX_PAGE_SIZE`
    have hh : (W - bs.natAbs % W) % W > MAX_PAGE_SIZE := by
      simp only [W, MAX_PAGE_SIZE]; omega
    rw [if_pos hneg, if_pos (Or.inr hh)] at h
    cases h
  · rw [if_neg hneg] at h
    dsimp only at h
    by_cases hr : bs.toNat < MIN_PAGE_SIZE ∨ bs.toNat > MAX_PAGE_SIZE
    · rw [if_pos hr] at h; cases h
    · have h2 : bs.toNat ≤ MAX_PAGE_SIZE := by omega
      have hprod : 8 * blocks * bs.toNat ≤ 8 * 2^32 * MAX_PAGE_SIZE := Nat.mul_le_mul (by omega) h2
      have hlt : 8 * blocks * bs.toNat < W := by
        simp only [MAX_PAGE_SIZE] at hprod; simp only [W]; omega
      rw [if_neg hr, Nat.mod_eq_of_lt hlt] at h
      by_cases hm : 8 * blocks * bs.toNat < mapnr
      · rw [if_pos hm] at h; cases h
      · exact ⟨by omega, by omega, h2, by omega⟩

/-- With a page size accepted by `try_header` and 32-bit header fields no intermediate of the
bitmap sizing leaves its C type. -/
theorem dd_bitmap_no_overflow (ps : Nat) (sub : Int) (blocks maxPfn : Nat)
    (hps : MIN_PAGE_SIZE ≤ ps ∧ ps ≤ MAX_PAGE_SIZE) (hsub : sub < 2^31) (hb : blocks < 2^32) :
    readBitmap ps sub blocks maxPfn ≠ .ovf := by
  unfold readBitmap
  have walk := @ite_of DdRes (· ≠ .ovf)
  refine walk (fun _ => nofun) fun hneg => ?_
  dsimp only
  simp only [MAX_PAGE_SIZE] at hps
  have ho : (1 + sub.toNat) * ps ≤ 2^31 * 262144 := Nat.mul_le_mul (by omega) hps.2
  have hbm : blocks * ps ≤ 2^32 * 262144 := Nat.mul_le_mul (by omega) hps.2
  have hbm2 : blocks / 2 * ps ≤ blocks * ps := Nat.mul_le_mul_right ps (Nat.div_le_self _ _)
  refine walk (fun hc => absurd hc (by simp only [OFF_MAX, W]; omega)) fun _ => ?_
  refine walk (fun _ => ?_) fun _ => nofun
  exact walk (fun hc => absurd hc (by simp only [OFF_MAX]; omega)) fun _ => nofun

/-- The bits scanned are exactly the bits of the chunk that is read, `max_pfn` is clamped to
them, and the chunk lies between the memory bitmap offset and the page descriptors. -/
theorem dd_bitmap_in_bounds (ps : Nat) (sub : Int) (blocks maxPfn : Nat) (r : BmpReq)
    (h : readBitmap ps sub blocks maxPfn = .req r) :
    r.maxBitmapPfn = 8 * r.len ∧ r.maxPfn ≤ 8 * r.len ∧ r.maxPfn ≤ maxPfn ∧
    r.memOff ≤ r.off ∧ r.off + r.len ≤ r.descoff :=
  (h ▸ readBitmap_good ps sub blocks maxPfn : BmpGood maxPfn (.req r))

example : readBitmap 4096 1 2 20 = .req ⟨12288, 4096, 16384, 20, 32768, 8192⟩ := by decide
example : readBitmap 4096 (-1) 2 20 = .corrupt := by decide
example : tryHeader 4096 2 20 = true := by decide
example : tryHeader 0 2 20 = false := by decide
example : tryHeader (-4096) 2 20 = false := by decide

/-! ### flatmap_file_init -/

/-- What a read of a record header behind the end of the file can yield: it fails
(`file.mmap_policy` ALWAYS) or it yields zeroes (`fcache_get_read` zero-pads, policies NEVER/TRY). -/
def BehindEOF (rd : Nat → Option (Int × Int)) (bound : Nat) : Prop :=
  ∀ p, bound ≤ p → rd p = none ∨ rd p = some (0, 0)

/-- The record scan ends within `bound / 17 + 2` iterations, `bound` being the end of the last
block of the file: every record advances the position by at least 17 bytes, and a header read
behind the file either fails or is all zero, which is rejected (size 0). -/
theorem flat_terminates (rd : Nat → Option (Int × Int)) (bound : Nat) (hEOF : BehindEOF rd bound) :
    flatScan rd bound ≠ .fuel :=
  fun h => (h ▸ flatScan_good rd bound hEOF : FlatGood bound .fuel)

/-- Every segment of an accepted flattened file is non-empty, its data lies behind its record
header and in front of the END record, which starts inside the file. -/
theorem flat_segs (rd : Nat → Option (Int × Int)) (bound : Nat) (hEOF : BehindEOF rd bound)
    (segs : List Seg) (h : flatScan rd bound = .ok segs) :
    ∀ s ∈ segs, 0 < s.size ∧ (MDF_HEADER_SIZE + 16 : Int) ≤ s.flatoff + s.pos ∧
      s.flatoff + s.pos + s.size < bound :=
  (h ▸ flatScan_good rd bound hEOF : FlatGood bound (.ok segs))

example : flatScan (fun p => if p = 4096 then some (0, 10) else if p = 4122 then some (-1, 0) else none) 8192
    = .ok [⟨0, 10, 4112⟩] := by decide
example : BehindEOF (fun p => if p = 4096 then some (0, 10) else if p = 4122 then some (-1, 0) else none) 8192 := by
  intro p hp
  have h1 : p ≠ 4096 := by omega
  have h2 : p ≠ 4122 := by omega
  simp [h1, h2]
example : flatScan (fun p => if p = 4096 then some (0, 10) else some (0, 0)) 8192 = .corrupt := by decide   -- zeroes behind the data

/-! ### flatmap_get_chunk_flat -/

/-- For a map whose methods are indices into the offset array (or NONE), the range pointer is
never dereferenced past the array and `offs` is never indexed outside it — for every position
and length, including holes, the area behind the last segment and the empty map. -/
theorem chunk_in_bounds (ranges : List (Nat × Int)) (offs : List Int) (pos len : Nat)
    (hwf : ∀ r ∈ ranges, r.2 = -1 ∨ (0 ≤ r.2 ∧ r.2.toNat < offs.length)) :
    chunkIdx ranges offs pos len ≠ .oob := by
  unfold chunkIdx
  split
  · nofun
  · next r off hw =>
    split
    · next hc =>
      rcases hwf r (walkRanges_mem _ _ _ _ hw) with hr | ⟨hr0, hrl⟩
      · exact absurd hr hc.1
      · rw [if_neg (by omega), List.getElem?_eq_getElem hrl]; nofun
    · nofun

example : chunkIdx [(9, -1), (9, 0), (2^64 - 21, -1)] [4112] 12 4 = .direct 4124 := by decide
example : chunkIdx [(9, -1), (9, 0), (2^64 - 21, -1)] [4112] 3 4 = .copy := by decide     -- in a hole
example : chunkIdx [] [] 0 4 = .copy := by decide                                          -- no records

/-! ### sadump setup_arch, page_size_pre_hook -/

theorem cpusz_no_divzero (total cpus : Nat) : cpuStateSz total cpus ≠ .divzero := by
  unfold cpuStateSz
  split <;> nofun

theorem pgshift_defined (ps : Nat) : pageShift ps ≠ .badshift := by
  unfold pageShift
  split
  · nofun
  · split <;> nofun

/-- An accepted page size is the power of two of the returned shift, and the shift is a valid
shift count for a 64-bit value. -/
theorem pgshift_spec (ps s : Nat) (hps : ps < 2^64) (h : pageShift ps = .shift s) : ps = 2^s ∧ s < 64 := by
  unfold pageShift at h
  split at h
  · cases h
  · split at h
    · cases h
    · next hp =>
      cases h
      have hp' : ps = 2 ^ ctz 64 ps := Decidable.not_not.mp hp
      refine ⟨hp', ?_⟩
      rw [hp'] at hps
      exact (Nat.pow_lt_pow_iff_right (by decide)).mp hps

example : pageShift 4096 = .shift 12 := by decide
example : pageShift 0 = .corrupt := by decide
example : pageShift 12288 = .corrupt := by decide

/-! ### Summary

Full statement of C03 (NOT proved — it quantifies over the whole library, for which no model
exists):

    ∀ (files : List (List UInt8)) (calls : List ApiCall),
      let run := execute libkdumpfile (open files :: calls)
      run.noInvalidAccess ∧ run.noDivisionByZero ∧
      (∀ c ∈ run.returns, c.status ∈ documentedStatuses) ∧ run.steps ≤ k * (files.map length).sum

What is proved is its restriction to the modelled parsing steps; what is missing is the same
for every other function reached by open / read / attribute enumeration / page-map queries
(covered by the `hostile` stream under ASan+UBSan only). -/
theorem hostile_input_safe_partial :
    (∀ src cap, rle src cap ≠ .oob ∧ rle src cap ≠ .fuel) ∧
    (∀ rd32 total, notes rd32 total ≠ .oob ∧ notes rd32 total ≠ .fuel) ∧
    (∀ ps sub blocks maxPfn, MIN_PAGE_SIZE ≤ ps ∧ ps ≤ MAX_PAGE_SIZE → sub < 2^31 → blocks < 2^32 →
        readBitmap ps sub blocks maxPfn ≠ .ovf) ∧
    (∀ rd bound, BehindEOF rd bound → flatScan rd bound ≠ .fuel) ∧
    (∀ ranges offs pos len, (∀ r ∈ ranges, r.2 = -1 ∨ (0 ≤ r.2 ∧ r.2.toNat < offs.length)) →
        chunkIdx ranges offs pos len ≠ .oob) ∧
    (∀ total cpus, cpuStateSz total cpus ≠ .divzero) ∧
    (∀ ps, pageShift ps ≠ .badshift) :=
  ⟨fun s c => ⟨rle_in_bounds s c, rle_terminates s c⟩,
   fun r t => ⟨notes_in_bounds r t, notes_terminates r t⟩,
   dd_bitmap_no_overflow, flat_terminates, chunk_in_bounds,
   cpusz_no_divzero, pgshift_defined⟩

end Kdf.Props.C03
