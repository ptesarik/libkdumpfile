import Kdf.Model.Attr
/-! What the operations of `Kdf.Model.Attr` do to a lookup by identifier. -/
namespace Kdf.Lemmas.Attr
open Kdf.Model.Attr

/-- Erase the `isset` flag (everything else of a node is what set/instantiate must preserve). -/
def strip (n : Node) : Node := { n with isset := false }

theorem find_map (ns : List Node) (g : Node → Node) (hg : ∀ n, (g n).id = n.id) (j : Nat) :
    find (ns.map g) j = (find ns j).map g := by
  unfold find
  rw [List.find?_map]
  have : ((fun n => n.id == j) ∘ g) = (fun n : Node => n.id == j) := by
    funext n; simp [Function.comp, hg]
  rw [this]

theorem find_id {ns : List Node} {j : Nat} {n : Node} (h : find ns j = some n) : n.id = j := by
  unfold find at h
  have := List.find?_some h
  simpa using this

theorem find_mem {ns : List Node} {j : Nat} {n : Node} (h : find ns j = some n) : n ∈ ns := by
  unfold find at h
  exact List.mem_of_find?_eq_some h

theorem find_upd (ns : List Node) (i : Nat) (f : Node → Node) (hf : ∀ n, (f n).id = n.id) (j : Nat) :
    find (upd ns i f) j = (find ns j).map (fun n => if n.id == i then f n else n) := by
  unfold upd
  apply find_map
  intro n
  by_cases h : n.id == i <;> simp [h, hf]

theorem find_upd_ne (ns : List Node) (i : Nat) (f : Node → Node) (hf : ∀ n, (f n).id = n.id) (j : Nat)
    (hij : j ≠ i) : find (upd ns i f) j = find ns j := by
  rw [find_upd ns i f hf j]
  cases h : find ns j with
  | none => rfl
  | some n =>
    have := find_id h
    simp [this, hij]

theorem find_upd_self (ns : List Node) (i : Nat) (f : Node → Node) (hf : ∀ n, (f n).id = n.id) :
    find (upd ns i f) i = (find ns i).map f := by
  rw [find_upd ns i f hf i]
  cases h : find ns i with
  | none => rfl
  | some n =>
    have := find_id h
    simp [this]

def MarksSet (g : Node → Node) : Prop := ∀ m, g m = m ∨ g m = { m with isset := true }

/-- instantiate_path changes nothing but `isset` flags, and those only from unset to set. -/
theorem find_instantiate (fuel : Nat) : ∀ (ns : List Node) (p : Option Nat) (j : Nat),
    ∃ g, MarksSet g ∧ find (instantiate ns fuel p) j = (find ns j).map g := by
  have same : ∀ (ns : List Node) (j : Nat), ∃ g, MarksSet g ∧ find ns j = (find ns j).map g :=
    fun ns j => ⟨id, fun _ => Or.inl rfl, by cases find ns j <;> rfl⟩
  induction fuel with
  | zero => intro ns p j; exact same ns j
  | succ f ih =>
    intro ns p j
    cases p with
    | none => exact same ns j
    | some i =>
      unfold instantiate
      cases find ns i with
      | none => exact same ns j
      | some n =>
        dsimp only
        by_cases hs : n.isset = true
        · rw [if_pos hs]; exact same ns j
        · rw [if_neg hs]
          obtain ⟨g, hg, e⟩ := ih (upd ns i fun n => { n with isset := true }) n.parent j
          refine ⟨fun m => g (if m.id == i then { m with isset := true } else m), fun m => ?_, ?_⟩
          · dsimp only
            by_cases hm : (m.id == i) = true
            · rw [if_pos hm]; exact Or.inr ((hg _).elim id id)
            · rw [if_neg hm]; exact hg m
          · rw [e, find_upd ns i _ (by intro n; rfl) j, Option.map_map]; rfl

theorem mem_foldl_filter {β : Type} (step : St → β → St)
    (hstep : ∀ s b, ∀ n ∈ (step s b).nodes, n ∈ s.nodes) :
    ∀ (l : List β) (s : St), ∀ n ∈ (l.foldl step s).nodes, n ∈ s.nodes := by
  intro l
  induction l with
  | nil => intro s n h; exact h
  | cons b bs ih =>
    intro s n h
    simp only [List.foldl_cons] at h
    exact hstep s b n (ih (step s b) n h)

theorem deallocBelow_sub (s : St) (a : Nat) : ∀ n ∈ (deallocBelow s a).nodes, n ∈ s.nodes := by
  intro n h
  simp only [deallocBelow] at h
  exact (List.mem_filter.mp h).1

theorem deallocVmci_sub (s : St) (d : Nat) : ∀ n ∈ (deallocVmci s d).nodes, n ∈ s.nodes := by
  unfold deallocVmci
  exact mem_foldl_filter (fun (s : St) (c : Node) => deallocBelow s c.id) (fun s c => deallocBelow_sub s c.id) _ s

theorem rawsweep_sub (l : List Node) (s : St) :
    ∀ n ∈ (l.foldl (fun s r => match r.parent with | some p => deallocVmci s p | none => s) s).nodes, n ∈ s.nodes := by
  apply mem_foldl_filter
  intro s r n h
  cases hp : r.parent with
  | none => simpa [hp] using h
  | some p => simp only [hp] at h; exact deallocVmci_sub s p n h

/-- `clear_attr` and `clear_volatile` are this sweep, with different conditions `c`. -/
theorem mem_sweep (st : St) (c : Nat → Bool) (l : List Node) (m : Node)
    (hm : m ∈ (l.foldl (fun (s : St) (r : Node) => match r.parent with | some p => deallocVmci s p | none => s)
      { st with nodes := st.nodes.map (fun n => if c n.id then { n with isset := false } else n) }).nodes) :
    (c m.id = true → m.isset = false) ∧ (c m.id = false → m ∈ st.nodes) := by
  obtain ⟨n, hn, rfl⟩ := List.mem_map.mp (rawsweep_sub _ _ m hm)
  by_cases hc : c n.id = true
  · rw [if_pos hc]
    exact ⟨fun _ => rfl, fun h => Bool.noConfusion (hc.symm.trans h)⟩
  · rw [if_neg hc]
    exact ⟨fun h => absurd h hc, fun _ => hn⟩

theorem isUnder_self (ns : List Node) (a f : Nat) (hf : f ≠ 0) : isUnder ns a f a = true := by
  cases f with
  | zero => exact absurd rfl hf
  | succ k => simp [isUnder]

theorem foldl_dealloc_next (l : List Node) : ∀ (s : St), (l.foldl (fun s c => dealloc s c.id) s).next = s.next := by
  induction l with
  | nil => intro s; rfl
  | cons b bs ih => intro s; exact ih (dealloc s b.id)

theorem mem_foldl_dealloc (l : List Node) : ∀ (s : St) (m : Node),
    m ∈ (l.foldl (fun s c => dealloc s c.id) s).nodes →
    m ∈ s.nodes ∧ (s.next ≠ 0 → ∀ c ∈ l, m.id ≠ c.id) := by
  induction l with
  | nil => intro s m h; exact ⟨h, fun _ c hc => nomatch hc⟩
  | cons b bs ih =>
    intro s m h
    obtain ⟨h1, h2⟩ := ih (dealloc s b.id) m h
    obtain ⟨hm, hb⟩ := List.mem_filter.mp h1
    refine ⟨hm, fun hnext c hc he => ?_⟩
    rcases List.mem_cons.mp hc with rfl | hc
    · rw [he, isUnder_self _ _ _ hnext] at hb; cases hb
    · exact h2 hnext c hc he

theorem firstSet_cons_unset (x : Node) (l : List Node) (hx : x.isset = false) :
    firstSet (x :: l) = firstSet l := by
  simp [firstSet, hx]

theorem firstSet_cons_set (x : Node) (l : List Node) (hx : x.isset = true) :
    firstSet (x :: l) = some x.id := by
  simp [firstSet, hx]

theorem iterNext_split (st : St) (hnd : (st.nodes.map (·.id)).Nodup) (pre l : List Node) (x : Node)
    (hns : st.nodes = pre ++ x :: l) :
    iterNext st (some x.id) = .pos (firstSet (l.filter (fun n => n.parent == x.parent))) := by
  have hpre : ∀ y ∈ pre, y.id ≠ x.id := by
    rw [hns, List.map_append, List.nodup_append] at hnd
    exact fun y hy => hnd.2.2 _ (List.mem_map_of_mem hy) _ (List.mem_map_of_mem List.mem_cons_self)
  have hnone : pre.find? (fun n => n.id == x.id) = none :=
    List.find?_eq_none.mpr fun y hy => by simpa using hpre y hy
  have hget : find (pre ++ x :: l) x.id = some x := by simp [find, hnone]
  have hdrop : (pre ++ x :: l).dropWhile (fun n => n.id != x.id) = x :: l := by
    rw [List.dropWhile_append_of_pos fun y hy => by simpa using hpre y hy,
      List.dropWhile_cons_of_neg (by simp)]
  simp only [iterNext, St.get, sibsAfter, hns, hget, hdrop]
  rfl

theorem iterFrom_enum (st : St) (hnd : (st.nodes.map (·.id)).Nodup) (d : Nat) :
    ∀ (l pre : List Node) (f : Nat), st.nodes = pre ++ l → l.length ≤ f →
    iterFrom st f (firstSet (children l d)) = ((children l d).filter (·.isset)).map (·.id) := by
  intro l
  induction l with
  | nil => intro pre f _ _; cases f <;> rfl
  | cons x l ih =>
    intro pre f hns hf
    have ih' := fun f hf => ih (pre ++ [x]) f (by rw [hns, List.append_assoc]; rfl) hf
    by_cases hp : x.parent = some d
    · have hch : children (x :: l) d = x :: children l d := by simp [children, hp]
      rw [hch]
      by_cases hs : x.isset = true
      · obtain ⟨f, rfl⟩ : ∃ f', f = f' + 1 := ⟨f - 1, by rw [List.length_cons] at hf; omega⟩
        rw [firstSet_cons_set x _ hs]
        unfold iterFrom
        rw [iterNext_split st hnd pre l x hns, hp]
        dsimp only
        rw [show l.filter (fun n => n.parent == some d) = children l d from rfl,
          ih' f (Nat.le_of_succ_le_succ hf)]
        simp [hs]
      · have hs' : x.isset = false := by simpa using hs
        rw [firstSet_cons_unset x _ hs', ih' f (Nat.le_of_succ_le hf)]
        simp [hs']
    · have hch : children (x :: l) d = children l d := by simp [children, hp]
      rw [hch]
      exact ih' f (Nat.le_of_succ_le hf)

end Kdf.Lemmas.Attr
