import Kdf.Model.Layout
import Kdf.Model.Scan
import Kdf.Lemmas.Layout
import Kdf.Lemmas.Scan
import Kdf.Lemmas.ScanLinear
import Kdf.Lemmas.ScanX64
import Kdf.Model.OsPick
/-!
# C08 — OS-level translation shortcuts never contradict the page tables

The layout theorems are proved in `Kdf/Lemmas/Layout.lean`, the scanner theorems read off `Kdf/Lemmas/Scan*.lean`;
the probing decisions at the end are proved here.

What is proved here (over the models `Kdf.Model.Layout`, `Kdf.Model.Scan`, tied to the C code by the
`os` correspondence stream, and over the C09 model `Kdf.Model.Sys.conv` of `addrxlat_fulladdr_conv`):

* `direct_def` — a DIRECT region `[first, last]` installed through `sys_set_layout`/`act_direct`
  yields exactly the linear pair `va ↦ va - first`, `pa ↦ pa + first` on exactly `[first, last]` /
  `[0, last - first]`, every other address of both maps keeps its method, every other map and method is
  untouched — for ANY prior system state;
* `rdirect_direct_id` — in that system every physical address the reverse direct map turns into a
  virtual address maps back to itself, and every direct-map virtual address maps to `va - first` and
  back (second clause of the property, for the generic machinery, any memory, any read capabilities);
* `physmaps_ident` — `sys_set_physmaps` is the identity both ways on `[0, maxaddr]`;
* `layout_plain` — regions without actions update the map point-wise, later regions win, nothing else
  changes (the HW / KV→PHYS layouts of every architecture are built this way);
* `layout_total` — `sys_set_layout` never leaves a malformed map behind, whatever regions, actions,
  allocator outcome or status (all maps stay total functions in the sense of C10);
* `fast_linear_kv`, `fast_linear_kphys` — what a conversion does once the map selects a linear
  method (the fast path itself), independent of page tables, memory and read capabilities;
* the page-table scanners of step.c, `highest_linear`, and three probing decisions of the set-up code: see the
  theorems below.

What is NOT proved: the rest of the decision logic of `x86_64.c` (`linux_directmap_by_pgt`, `linux_ktext_extents`,
the other branches of `map_xen_x86_64`) and of the other architecture files — covered by the image stream of
tools/props/c08.py (property evaluated on the implementation against an independent walk).
-/
namespace Kdf.Props.C08
open Kdf.Model.Pgt Kdf.Model.Sys Kdf.Model.Layout
open Kdf.Model.Map (mapSearch)
open Kdf.Lemmas.Layout

theorem direct_def (s : LSys) (hs : Shape s) (first last : Nat) (hfl : first ≤ last) (hl : last < W) :
    ∃ s', setLayout true s MAP_KV_PHYS [⟨first, last, M_DIRECT, .direct⟩] = (.ok, s') ∧ Shape s' ∧
      s'.sys.meths[M_DIRECT]? = some (.linear KPHYS ((W - first) % W)) ∧
      s'.sys.meths[M_RDIRECT]? = some (.linear KV first) ∧
      (∀ i : Nat, i ≠ M_DIRECT → i ≠ M_RDIRECT → s'.sys.meths[i]? = s.sys.meths[i]?) ∧
      (∃ mk, s'.sys.maps[MAP_KV_PHYS]? = some (some mk) ∧
        ∀ va, va < W → mapSearch mk va =
          if first ≤ va ∧ va ≤ last then (M_DIRECT : Int)
          else match s.sys.maps[MAP_KV_PHYS]? with
            | some (some m0) => mapSearch m0 va
            | _ => Kdf.Model.Map.NONE) ∧
      (∃ md, s'.sys.maps[MAP_KPHYS_DIRECT]? = some (some md) ∧
        ∀ pa, pa < W → mapSearch md pa =
          if pa ≤ last - first then (M_RDIRECT : Int)
          else match s.sys.maps[MAP_KPHYS_DIRECT]? with
            | some (some m0) => mapSearch m0 pa
            | _ => Kdf.Model.Map.NONE) ∧
      (∀ i : Nat, i ≠ MAP_KV_PHYS → i ≠ MAP_KPHYS_DIRECT → s'.sys.maps[i]? = s.sys.maps[i]?) :=
  Kdf.Lemmas.Layout.direct_def s hs first last hfl hl

theorem rdirect_direct_id (s : LSys) (hs : Shape s) (first last : Nat) (hfl : first ≤ last) (hl : last < W)
    (s' : LSys) (h : setLayout true s MAP_KV_PHYS [⟨first, last, M_DIRECT, .direct⟩] = (.ok, s'))
    (readCaps : Nat) (pm : Mem) :
    let c : Cfg := ⟨some s'.sys, readCaps, pm⟩
    (∀ pa, pa ≤ last - first →
      conv c KV ⟨pa, KPHYS⟩ = some (.ok, ⟨pa + first, KV⟩) ∧
      conv c KPHYS ⟨pa + first, KV⟩ = some (.ok, ⟨pa, KPHYS⟩)) ∧
    (∀ va, first ≤ va → va ≤ last →
      conv c KPHYS ⟨va, KV⟩ = some (.ok, ⟨va - first, KPHYS⟩) ∧
      conv c KV ⟨va - first, KPHYS⟩ = some (.ok, ⟨va, KV⟩)) :=
  Kdf.Lemmas.Layout.rdirect_direct_id s hs first last hfl hl s' h readCaps pm

theorem physmaps_ident (s : LSys) (hs : Shape s) (maxaddr : Nat) (hm : maxaddr < W) :
    ∃ s', setPhysmaps true s maxaddr = (.ok, s') ∧ Shape s' ∧
      ∀ readCaps pm pa, pa ≤ maxaddr →
        conv ⟨some s'.sys, readCaps, pm⟩ KPHYS ⟨pa, MACHPHYS⟩ = some (.ok, ⟨pa, KPHYS⟩) ∧
        conv ⟨some s'.sys, readCaps, pm⟩ MACHPHYS ⟨pa, KPHYS⟩ = some (.ok, ⟨pa, MACHPHYS⟩) :=
  Kdf.Lemmas.Layout.physmaps_ident s hs maxaddr hm

theorem layout_plain (s : LSys) (hs : Shape s) (idx : Nat) (hidx : idx < 5) (layout : List Region)
    (hreg : ∀ rg ∈ layout, rg.first ≤ rg.last ∧ rg.last < W ∧ rg.act = .none) :
    ∃ s' m', setLayout true s idx layout = (.ok, s') ∧ Shape s' ∧ s'.sys.meths = s.sys.meths ∧ s'.offs = s.offs ∧
      s'.sys.maps[idx]? = some (some m') ∧
      (∀ i : Nat, i ≠ idx → s'.sys.maps[i]? = s.sys.maps[i]?) ∧
      ∀ a, a < W → mapSearch m' a =
        regionsDen (fun x => match s.sys.maps[idx]? with
                             | some (some m0) => mapSearch m0 x
                             | _ => Kdf.Model.Map.NONE) layout a :=
  Kdf.Lemmas.Layout.setLayout_plain s hs idx hidx layout hreg

/-- whatever the allocator answers, whatever the status: every map of the system stays well-formed -/
theorem layout_total (alloc : Bool) (s : LSys) (hs : Shape s) (idx : Nat) (layout : List Region)
    (hreg : ∀ rg ∈ layout, rg.first ≤ rg.last ∧ rg.last < W)
    (s' : LSys) (st : St) (h : setLayout alloc s idx layout = (st, s')) : Shape s' :=
  Kdf.Lemmas.Layout.setLayout_shape_any alloc s hs idx layout hreg s' st h

theorem fast_linear_kv (c : Cfg) (sys : Sys) (hc : c.sys = some sys) (mk : Kdf.Model.Map.Map)
    (hmk : sys.maps[MAP_KV_PHYS]? = some (some mk)) (va : Nat) (slot : Nat) (off : Nat)
    (hsearch : mapSearch mk va = (slot : Int)) (hmeth : sys.meths[slot]? = some (.linear KPHYS off)) :
    conv c KPHYS ⟨va, KV⟩ = some (.ok, ⟨(va + off) % W, KPHYS⟩) :=
  conv_kv_linear c sys hc mk hmk va slot off hsearch hmeth

theorem fast_linear_kphys (c : Cfg) (sys : Sys) (hc : c.sys = some sys) (md : Kdf.Model.Map.Map)
    (hmd : sys.maps[MAP_KPHYS_DIRECT]? = some (some md)) (pa : Nat) (slot : Nat) (off : Nat)
    (hsearch : mapSearch md pa = (slot : Int)) (hmeth : sys.meths[slot]? = some (.linear KV off)) :
    conv c KV ⟨pa, KPHYS⟩ = some (.ok, ⟨(pa + off) % W, KV⟩) :=
  conv_kphys_linear c sys hc md hmd pa slot off hsearch hmeth

/-! ### The page-table scanners (step.c)

On the x86-64 paging forms (4- and 5-level) and for arbitrary table content; "mapped" is the C02 walk; a failing
table read is reported at the first address it affects; the model's recursion budget always suffices (`.fuel`,
`.undef` unreachable). -/

open Kdf.Model.Scan Kdf.Model.PgtArch Kdf.Lemmas.Scan in
/-- `lowest_mapped`: the answer is the least mapped page of `[addr & ~0xfff, limit]` -/
theorem scanner_lowest_mapped (mem : Mem) (t : Nat) (root : FullAddr) (pteMask : Nat) (pf : PagingForm)
    (hpf : X64Form pf) (hmask : pteMask < W) (hroot : root.addr < W) (addr limit : Nat)
    (hmemok : ∀ as a sz, mem as a sz ≠ .error .ok)
    (hh : SameHalf pf (clearLow addr 12) limit) :
    match lowestMapped (firstStep (.pgt t root pteMask pf)) (stepOnce extra mem (.pgt t root pteMask pf)) pf addr limit with
    | .done .ok a s =>
        clearLow addr 12 ≤ a ∧ a ≤ limit ∧ a % 4096 = 0 ∧
        (walk extra mem (.pgt t root pteMask pf) a).map (·.base) = .ok s.base ∧
        ∀ x, clearLow addr 12 ≤ x → x < a → walk extra mem (.pgt t root pteMask pf) x = .error .notpresent
    | .done .notpresent _ _ =>
        ∀ x, clearLow addr 12 ≤ x → x ≤ limit → walk extra mem (.pgt t root pteMask pf) x = .error .notpresent
    | .done e a _ =>
        clearLow addr 12 ≤ a ∧ (walk extra mem (.pgt t root pteMask pf) a).map (·.base) = .error e ∧
        ∀ x, clearLow addr 12 ≤ x → x < a → walk extra mem (.pgt t root pteMask pf) x = .error .notpresent
    | .fuel => False
    | .undef => False := by
  have _ := hroot  -- part of the stated property; the scanners never look at `root.addr`
  obtain ⟨T, hT, hp⟩ := lowestMapped_post { mem, t, root, pteMask, pf } hpf hmask hmemok addr limit hh
  exact hp.toMatch
    (fun a s ⟨h1, h2, ⟨h3, h4⟩, h5⟩ =>
      ⟨h1, h2, h3, h4, fun x hx1 hx2 => map_error_iff.1 (h5 x hx1 hx2)⟩)
    (fun a hn x h1 h2 => map_error_iff.1 (Post.np_all hn hT x h1 h2))
    (fun e a s hok _ ⟨h1, _, h3, h5⟩ =>
      ⟨h1, h3.err hok, fun x hx1 hx2 => map_error_iff.1 (h5 x hx1 hx2)⟩)

open Kdf.Model.Scan Kdf.Model.PgtArch Kdf.Lemmas.Scan in
/-- `lowest_unmapped`: the answer is the least page of `[addr & ~0xfff, limit]` whose walk ends in
"not present"; everything below it translates -/
theorem scanner_lowest_unmapped (mem : Mem) (t : Nat) (root : FullAddr) (pteMask : Nat) (pf : PagingForm)
    (hpf : X64Form pf) (hmask : pteMask < W) (hroot : root.addr < W) (addr limit : Nat)
    (hmemok : ∀ as a sz, mem as a sz ≠ .error .ok)
    (hh : SameHalf pf (clearLow addr 12) limit) :
    match lowestUnmapped (firstStep (.pgt t root pteMask pf)) (stepOnce extra mem (.pgt t root pteMask pf)) pf addr limit with
    | .done .ok a _ =>
        clearLow addr 12 ≤ a ∧ a ≤ limit ∧
        walk extra mem (.pgt t root pteMask pf) a = .error .notpresent ∧
        ∀ x, clearLow addr 12 ≤ x → x < a → ∃ s, walk extra mem (.pgt t root pteMask pf) x = .ok s
    | .done .notpresent _ _ =>
        ∀ x, clearLow addr 12 ≤ x → x ≤ limit → ∃ s, walk extra mem (.pgt t root pteMask pf) x = .ok s
    | .done e a _ =>
        clearLow addr 12 ≤ a ∧ (walk extra mem (.pgt t root pteMask pf) a).map (·.base) = .error e ∧
        ∀ x, clearLow addr 12 ≤ x → x < a → ∃ s, walk extra mem (.pgt t root pteMask pf) x = .ok s
    | .fuel => False
    | .undef => False := by
  have _ := hroot
  obtain ⟨T, hT, hp⟩ := lowestUnmapped_post { mem, t, root, pteMask, pf } hpf hmask hmemok addr limit hh
  exact hp.toMatch
    (fun a s ⟨h1, h2, h3, h5⟩ =>
      ⟨h1, h2, map_error_iff.1 h3, fun x hx1 hx2 => (h5 x hx1 hx2).elim fun _ => map_ok_exists⟩)
    (fun a hn x h1 h2 => (Post.np_all hn hT x h1 h2).elim fun _ => map_ok_exists)
    (fun e a s hok _ ⟨h1, _, h3, h5⟩ =>
      ⟨h1, h3.err hok, fun x hx1 hx2 => (h5 x hx1 hx2).elim fun _ => map_ok_exists⟩)

open Kdf.Model.Scan Kdf.Model.PgtArch Kdf.Lemmas.Scan in
/-- `highest_mapped`: the answer is the greatest mapped address of `[limit, addr | 0xfff]` -/
theorem scanner_highest_mapped (mem : Mem) (t : Nat) (root : FullAddr) (pteMask : Nat) (pf : PagingForm)
    (hpf : X64Form pf) (hmask : pteMask < W) (hroot : root.addr < W) (addr limit : Nat) (haddr : addr < W)
    (hmemok : ∀ as a sz, mem as a sz ≠ .error .ok)
    (hh : SameHalf pf limit (addr ||| 4095)) :
    match highestMapped (firstStep (.pgt t root pteMask pf)) (stepOnce extra mem (.pgt t root pteMask pf)) pf addr limit with
    | .done .ok a s =>
        limit ≤ a ∧ a ≤ (addr ||| 4095) ∧ a % 4096 = 4095 ∧
        (walk extra mem (.pgt t root pteMask pf) a).map (·.base) = .ok s.base ∧
        ∀ x, a < x → x ≤ (addr ||| 4095) → walk extra mem (.pgt t root pteMask pf) x = .error .notpresent
    | .done .notpresent _ _ =>
        ∀ x, limit ≤ x → x ≤ (addr ||| 4095) → walk extra mem (.pgt t root pteMask pf) x = .error .notpresent
    | .done e a _ =>
        a ≤ (addr ||| 4095) ∧ (walk extra mem (.pgt t root pteMask pf) a).map (·.base) = .error e ∧
        ∀ x, a < x → x ≤ (addr ||| 4095) → walk extra mem (.pgt t root pteMask pf) x = .error .notpresent
    | .fuel => False
    | .undef => False := by
  have _ := hroot
  have _ := haddr  -- part of the stated property; the scan starts from `addr | 0xfff` whatever `addr` is
  obtain ⟨T, hT, hp⟩ := highestMapped_post { mem, t, root, pteMask, pf } hpf hmask hmemok addr limit hh
  exact hp.toMatch
    (fun a s ⟨h1, h2, ⟨h3, h4⟩, h5⟩ =>
      ⟨h2, h1, h3, h4, fun x hx1 hx2 => map_error_iff.1 (h5 x hx1 hx2)⟩)
    (fun a hn x h1 h2 => map_error_iff.1 (PostD.np_all hn hT x h1 h2))
    (fun e a s hok _ ⟨h1, _, h3, h5⟩ =>
      ⟨h1, h3.err hok, fun x hx1 hx2 => map_error_iff.1 (h5 x hx1 hx2)⟩)

open Kdf.Model.Scan Kdf.Lemmas.ScanLinear in
/-- `highest_linear` checks the offset only at the first page of every contiguous mapped run.  Given the
scanner specifications (`LMOk`, `LUOk`, needed only for scan starts inside `[addr & ~pagemask, limit]`) and
an image whose runs are uniformly linear or not (`RunUniform`), an OK answer `h` means: every mapped address
of `[addr & ~pagemask, min h limit]` translates with offset `off`.  Generic in the paging form. -/
theorem highest_linear_sound (launch : Nat → Except XStatus Step) (sf : StepFn) (pf : PagingForm)
    (tr : Tr) (conv : Nat → XStatus × Nat) (limit off : Nat) (pm : Nat)
    (hlim : limit < W)
    (hmono : ∀ a b, andNot a pm = a → a ≤ b → b ≤ limit → a ≤ andNot b pm)
    (fuel addr h : Nat) (haddr : addr < W) (hlo : andNot addr pm ≤ limit)
    (hlm : ∀ a, a < W → andNot addr pm ≤ andNot a pm → andNot a pm ≤ limit →
      LMOk tr pm (andNot a pm) limit (lowestMapped launch sf pf a limit))
    (hlu : ∀ a, a < W → andNot addr pm ≤ andNot a pm → andNot a pm ≤ limit →
      LUOk tr (andNot a pm) limit (lowestUnmapped launch sf pf a limit))
    (hrun : RunUniform tr conv off)
    (hres : highestLinear launch sf pf conv limit off fuel addr addr .notpresent = .done .ok h) :
    ∀ x, andNot addr pm ≤ x → x ≤ h → x ≤ limit → Mapped tr x → LinAt conv off x :=
  highestLinear_inv launch sf pf tr conv limit off pm (andNot addr pm) hlim hmono hlm hlu hrun
    fuel addr addr .notpresent h haddr (Nat.le_refl _) hlo (fun hc => by cases hc)
    (fun x hx0 hxa _ _ => absurd hx0 (Nat.not_le_of_lt hxa)) hres

open Kdf.Model.Scan Kdf.Model.PgtArch Kdf.Lemmas.Scan Kdf.Lemmas.ScanLinear in
/-- **x86-64, no scanner hypothesis left**: if `highest_linear` over x86-64 page tables (4- or 5-level,
arbitrary content, arbitrary memory failures) answers OK with end address `h` — this is how
`linux_ktext_extents` and `linux_directmap_by_pgt` of x86_64.c find the end of the kernel text and of the
direct map — then every address of `[addr & ~0xfff, min h limit]` that the page tables map translates with
the offset `off`, i.e. the LINEAR method the library installs on that range agrees with the hardware walk —
provided the image's contiguous mapped runs are linear as a whole or not at all (`RunUniform`: "laid out
the way the supported kernels lay out memory") and the scanned interval lies in one canonical half. -/
theorem x64_highest_linear_sound (mem : Mem) (t : Nat) (root : FullAddr) (pteMask : Nat) (pf : PagingForm)
    (hpf : X64Form pf) (hmask : pteMask < W) (hroot : root.addr < W)
    (hmemok : ∀ as a sz, mem as a sz ≠ .error .ok)
    (conv : Nat → XStatus × Nat) (limit off : Nat)
    (hrun : RunUniform (walk extra mem (.pgt t root pteMask pf)) conv off)
    (fuel addr h : Nat) (hh : SameHalf pf (clearLow addr 12) limit)
    (hres : highestLinear (firstStep (.pgt t root pteMask pf)) (stepOnce extra mem (.pgt t root pteMask pf)) pf
              conv limit off fuel addr addr .notpresent = .done .ok h) :
    ∀ x, clearLow addr 12 ≤ x → x ≤ h → x ≤ limit →
      Mapped (walk extra mem (.pgt t root pteMask pf)) x → LinAt conv off x := by
  have _ := hroot
  -- the scanner specifications are needed only for starts `a` with `addr & ~0xfff ≤ a & ~0xfff ≤ limit`;
  -- for those `SameHalf` is inherited from the first start
  have hlim : limit < W := hh.2.1
  have haddr : addr < W := addr_lt_W hh.1 hlim
  have hsh : ∀ a, a < W → andNot addr 4095 ≤ andNot a 4095 → andNot a 4095 ≤ limit →
      SameHalf pf (clearLow a 12) limit := by
    intro a ha h1 h2
    rw [andNot_eq addr haddr, andNot_eq a ha] at h1
    rw [andNot_eq a ha] at h2
    exact sameHalf_mono hh h1 h2
  have hres' := highest_linear_sound _ _ pf (walk extra mem (.pgt t root pteMask pf)) conv limit off
    4095 hlim (andNot_mono hlim) fuel addr h haddr (by rw [andNot_eq addr haddr]; exact hh.1)
    (fun a ha h1 h2 => by
      rw [andNot_eq a ha]
      exact lowestMapped_LMOk { mem, t, root, pteMask, pf } hpf hmask hmemok a limit (hsh a ha h1 h2))
    (fun a ha h1 h2 => by
      rw [andNot_eq a ha]
      exact lowestUnmapped_LUOk { mem, t, root, pteMask, pf } hpf hmask hmemok a limit (hsh a ha h1 h2))
    hrun hres
  rw [andNot_eq addr haddr] at hres'
  exact hres'

/-! ### Non-vacuity -/
example : Shape fresh := fresh_shape

/-- the Linux 2.6.31+ direct map on a fresh system: the model computes the maps the library prints -/
example : (setLayout true fresh MAP_KV_PHYS [⟨0xffff880000000000, 0xffffc7ffffffffff, M_DIRECT, .direct⟩]).1 = .ok := by
  decide
example :
    (setLayout true fresh MAP_KV_PHYS [⟨0xffff880000000000, 0xffffc7ffffffffff, M_DIRECT, .direct⟩]).2.sys.maps[2]? =
      some (some [⟨0x3fffffffffff, 5⟩, ⟨W - 0x400000000000 - 1, -1⟩]) := by
  decide
example : (setPhysmaps true fresh (2^52 - 1)).1 = .ok := by decide

end Kdf.Props.C08

namespace Kdf.Props.C08
open Kdf.Model.Pgt Kdf.Model.Scan Kdf.Model.PgtArch Kdf.Lemmas.Scan

/-- a concrete 4-level table set: PGD[256] -> PUD, PUD[0] -> PMD, PMD[1] = 2 MiB page at 0x200000 -/
def demoTbl : List (Nat × Nat) := [(0x1000 + 8 * 256, 0x2003), (0x2000, 0x3003), (0x3000 + 8, 0x200083)]
def demoMem : Mem := fun _ a sz => if sz = 8 then .ok (((demoTbl.find? (·.1 = a)).map (·.2)).getD 0) else .error .notimpl
def demoPf : PagingForm := ⟨.x86_64, [12, 9, 9, 9, 9]⟩

example : X64Form demoPf := ⟨rfl, Or.inl rfl⟩
example : SameHalf demoPf (clearLow 0xffff800000000000 12) 0xffffc7ffffffffff := by
  refine ⟨by decide, by decide, Or.inr ?_⟩
  decide
example : ∀ as a sz, demoMem as a sz ≠ .error .ok := by
  intro as a sz; unfold demoMem; split <;> simp
/-- the scanner finds the first mapped page of the demo tables -/
example : (match lowestMapped (firstStep (.pgt 1 ⟨0x1000, 0⟩ 0 demoPf))
      (stepOnce extra demoMem (.pgt 1 ⟨0x1000, 0⟩ 0 demoPf)) demoPf 0xffff800000000000 0xffffc7ffffffffff with
    | .done st a _ => (st, a) | _ => (.nomem, 0)) = (.ok, 0xffff800000200000) := by decide
end Kdf.Props.C08

/-! ## Probing decisions of the set-up code (image stream, `ospick` correspondence) -/
namespace Kdf.Props.C08
open Kdf.Model.Pgt Kdf.Model.OsPick

/-- `check_pae` only ever chooses a paging form under which the hardware walk of the start of the direct mapping ends
at physical 0 — exactly what the DIRECT fast path (`va ↦ va - direct`, `direct_def`) gives there: the shortcut and the
chosen hardware form agree at the probe address; a hierarchy that merely parses as a complete walk (to some other
address) is not accepted. -/
theorem check_pae_sound (extra : Extra) (memPae memNon : Mem) (root : FullAddr) (direct : Nat) :
    (checkPae extra memPae memNon root direct = some 52 →
       walkAddr extra memPae root ia32PfPae direct = some (direct - direct)) ∧
    (checkPae extra memPae memNon root direct = some 32 →
       walkAddr extra memNon root ia32Pf direct = some (direct - direct) ∧
       walkAddr extra memPae root ia32PfPae direct ≠ some 0) ∧
    (∀ b, checkPae extra memPae memNon root direct = some b → b = 52 ∨ b = 32) := by
  unfold checkPae
  rw [Nat.sub_self]
  by_cases h1 : walkAddr extra memPae root ia32PfPae direct = some 0
  · simp [h1]
  · by_cases h2 : walkAddr extra memNon root ia32Pf direct = some 0 <;> simp [h1, h2]

/-- `get_linux_pgt_root` (ia32) hands the CR3 value to the walk bit for bit (any 32-byte aligned PDPT address inside a
page included); the `rootpgt` option has precedence, `swapper_pg_dir` is the last resort. -/
theorem ia32_root_exact (opt : Option FullAddr) (cr3 sym : Option Nat) :
    (∀ r, opt = some r → ia32LinuxRoot opt cr3 sym = r) ∧
    (∀ c, opt = none → cr3 = some c → ia32LinuxRoot opt cr3 sym = ⟨c, MACHPHYS⟩) ∧
    (∀ v, opt = none → cr3 = none → sym = some v → ia32LinuxRoot opt cr3 sym = ⟨v, KV⟩) := by
  refine ⟨?_, ?_, ?_⟩
  · intro r h; subst h; rfl
  · intro c h1 h2; subst h1; subst h2; rfl
  · intro v h1 h2 h3; subst h1; subst h2; subst h3; rfl

/-- The Xen text probe: whatever is chosen is a 2 MiB mapping at one of the five known text addresses; and an image
whose page tables map the 3.2-3.4 text address with 2 MiB pages is never taken for a 4.0 development snapshot, whatever
is mapped at `XEN_TEXT_4_0dev` (which lies in the ioremap area of those versions). -/
theorem xen_text_pick_sound (is2m : Nat → Bool) :
    (∀ a f, xenTextPick is2m = some (a, f) → is2m a = true ∧ (a, f) ∈ xenTextOrder) ∧
    (is2m XEN_TEXT_3_2 = true → ∀ f, xenTextPick is2m ≠ some (XEN_TEXT_4_0dev, f)) ∧
    (xenTextPick is2m = none → ∀ p ∈ xenTextOrder, is2m p.1 = false) := by
  refine ⟨?_, ?_, ?_⟩
  · intro a f h
    unfold xenTextPick at h
    exact ⟨by simpa using List.find?_some h, List.mem_of_find?_eq_some h⟩
  · -- `find?` returns the first hit, and `XEN_TEXT_3_2` stands before `XEN_TEXT_4_0dev` in `xenTextOrder`
    intro h32 f h
    unfold XEN_TEXT_3_2 at h32
    unfold xenTextPick xenTextOrder XEN_TEXT_4_4 XEN_TEXT_4_3 XEN_TEXT_4_0 XEN_TEXT_3_2 XEN_TEXT_4_0dev at h
    simp only [List.find?, h32] at h
    split at h
    · simp at h
    · split at h
      · simp at h
      · split at h
        · simp at h
        · simp at h
  · intro h p hp
    unfold xenTextPick at h
    have := List.find?_eq_none.mp h p hp
    simpa using this

end Kdf.Props.C08
