import Kdf.Model.Hist
import Kdf.Lemmas.Pfn
import Kdf.Lemmas.PfnGetBits
import Kdf.Lemmas.DumpElf
/-! The `last_load` shortcut returns what the linear search returns when the segments are sorted; `loads_disjoint`
implies sorted (C04). -/
namespace Kdf.Lemmas.Hist
open Kdf.Model.Hist Kdf.Model.Pfn Kdf.Lemmas.Pfn Kdf.Lemmas.DumpElf

theorem findClosestSC_spec (segs : List Seg) (useLast : Bool) (hs : useLast = true → SegsSorted segs)
    (last : Option Nat) (hl : ∀ l, last = some l → l < segs.length) (p d : Nat) :
    ∃ last', findClosestSC segs useLast last p d = some (findClosest segs p d, last') ∧
      ∀ l, last' = some l → l < segs.length := by
  -- the plain scan remembers its hit, an index into `segs`
  obtain ⟨last0, e0, h0⟩ : ∃ last', (match findClosest segs p d with
        | some i => (some i, some i)
        | none => (none, last) : Option Nat × Option Nat) = (findClosest segs p d, last') ∧
      ∀ l, last' = some l → l < segs.length := by
    cases hf : findClosest segs p d with
    | none => exact ⟨last, rfl, hl⟩
    | some i =>
      obtain ⟨pre, s, post, rfl, rfl, -⟩ := findClosest_some hf
      exact ⟨some _, rfl, fun l e => by cases e; simp⟩
  unfold findClosestSC
  dsimp only
  cases last with
  | none => exact ⟨last0, congrArg some e0, h0⟩
  | some l =>
    have hlt := hl l rfl
    dsimp only
    rw [List.getElem?_eq_getElem hlt]
    dsimp only
    by_cases hc : useLast = true ∧ p ≥ segs[l].phys ∧ p - segs[l].phys < segs[l].size
    · rw [if_pos hc, findClosest_of_inside segs (hs hc.1) l segs[l] (List.getElem?_eq_getElem hlt) p d hc.2.1 hc.2.2]
      exact ⟨some l, rfl, hl⟩
    · rw [if_neg hc]
      exact ⟨last0, congrArg some e0, h0⟩

theorem lookupsSC_spec (segs : List Seg) (useLast : Bool) (hs : useLast = true → SegsSorted segs)
    (qs : List (Nat × Nat)) :
    ∀ (last : Option Nat), (∀ l, last = some l → l < segs.length) →
    ∃ last', lookupsSC segs useLast last qs = some last' ∧ ∀ l, last' = some l → l < segs.length := by
  induction qs with
  | nil => intro last hl; exact ⟨last, rfl, hl⟩
  | cons q qs ih =>
    intro last hl
    obtain ⟨last1, h1, h2⟩ := findClosestSC_spec segs useLast hs last hl q.1 q.2
    obtain ⟨last', h3, h4⟩ := ih last1 h2
    refine ⟨last', ?_, h4⟩
    rw [lookupsSC, h1]
    exact h3

theorem loadsDisjoint_pairwise : ∀ (ls : List Load) (e : Nat), loadsDisjoint ls e = true →
    (∀ l ∈ ls, e ≤ l.start) ∧
    ls.Pairwise (fun a b => a.start + a.memsz ≤ b.start ∧ a.start + a.filesz ≤ b.start) := by
  intro ls
  induction ls with
  | nil => intro e _; exact ⟨nofun, List.Pairwise.nil⟩
  | cons l rest ih =>
    intro e h
    rw [loadsDisjoint] at h
    by_cases hc : l.start < e ∨ l.start + (if l.filesz > l.memsz then l.filesz else l.memsz) ≥ W
    · rw [if_pos hc] at h; cases h
    · rw [if_neg hc] at h
      obtain ⟨h1, h2⟩ := ih _ h
      refine ⟨?_, List.Pairwise.cons (fun x hx => ?_) h2⟩
      · intro x hx
        rcases List.mem_cons.mp hx with rfl | hx
        · omega
        · have := h1 x hx; omega
      · have := h1 x hx
        split at this <;> omega

theorem loadsDisjoint_segs (ls : List Load) (h : loadsDisjoint ls 0 = true) :
    SegsSorted (ls.map fun l => ⟨l.start, l.memsz⟩) ∧
    SegsSorted (ls.map fun l => ⟨l.start, l.filesz⟩) := by
  have hp := (loadsDisjoint_pairwise ls 0 h).2
  unfold SegsSorted
  rw [List.pairwise_map, List.pairwise_map]
  exact ⟨hp.imp And.left, hp.imp And.right⟩

theorem findClosestSC_code (ls : List Load) (byFile : Bool) (last : Option Nat)
    (hl : ∀ l, last = some l → l < ls.length) (p d : Nat) :
    let segs : List Seg := ls.map fun l => ⟨l.start, if byFile then l.filesz else l.memsz⟩
    ∃ last', findClosestSC segs (loadsDisjoint ls 0) last p d = some (findClosest segs p d, last') := by
  intro segs
  have hs : loadsDisjoint ls 0 = true → SegsSorted segs := by
    intro h
    obtain ⟨h1, h2⟩ := loadsDisjoint_segs ls h
    cases byFile
    · exact h1
    · exact h2
  exact (findClosestSC_spec segs (loadsDisjoint ls 0) hs last
    (fun l e => (List.length_map ..).symm ▸ hl l e) p d).imp fun _ h => h.1

end Kdf.Lemmas.Hist
