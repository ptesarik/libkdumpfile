import Kdf.Model.Pgt
import Kdf.Model.PgtArch
import Kdf.Spec.ArchWalk
import Kdf.Lemmas.PgtWalk
/-! C02: arithmetic of masks and address fields, on top of `Kdf/Lemmas/PgtWalk.lean`. -/
namespace Kdf.Lemmas.Pgt
open Kdf.Model.Pgt Kdf.Spec.ArchWalk Kdf.Lemmas.PgtWalk

/-- memory returns values that fit the object size -/
def MemWF (mem : Mem) : Prop := ∀ as a sz v, mem as a sz = .ok v → v < 2^(8*sz)

/-! ## Arithmetic -/

theorem pow_split {p m : Nat} (h : p ≤ m) : (2:Nat)^m = 2^p * 2^(m-p) := by
  rw [← Nat.pow_add]; congr 1; omega

theorem mod_pow_div_pow (va p m : Nat) (h : p ≤ m) : va % 2^m / 2^p = va / 2^p % 2^(m-p) := by
  rw [pow_split h, Nat.mod_mul_right_div_self]

/-- `x & ~mask(k)` on 64-bit values, bit by bit: below `k`, from `k` to 63, above 63 -/
theorem and_not_mask (a k : Nat) (ha : a < W) (hk : k ≤ 64) :
    a &&& ((W - 1) ^^^ (2^k - 1)) = a / 2^k * 2^k := by
  apply Nat.eq_of_testBit_eq
  intro i
  rw [Nat.testBit_and, Nat.testBit_xor, Nat.testBit_two_pow_sub_one, Nat.testBit_two_pow_sub_one,
    Nat.testBit_mul_two_pow, Nat.testBit_div_two_pow]
  by_cases h1 : i < k
  · simp [h1, Nat.not_le.2 h1, Nat.lt_of_lt_of_le h1 hk]
  · have h3 := Nat.le_of_not_lt h1
    by_cases h2 : i < 64
    · simp [h1, h2, h3, Nat.sub_add_cancel h3]
    · simp [h1, h2, h3, Nat.sub_add_cancel h3, Nat.testBit_lt_two_pow
        (Nat.lt_of_lt_of_le ha (Nat.pow_le_pow_right Nat.two_pos (Nat.le_of_not_lt h2)))]

/-! ## `spanBits` -/

theorem vaddrBits_eq (pf : PagingForm) : vaddrBits pf = spanBits pf.fieldsz pf.fieldsz.length := by
  simp [vaddrBits, spanBits]

end Kdf.Lemmas.Pgt
