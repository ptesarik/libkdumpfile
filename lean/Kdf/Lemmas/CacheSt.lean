import Kdf.Model.Cache
import Kdf.Lemmas.Cache
import Kdf.Lemmas.CacheList
/-!
Abstract view of the page-cache model (C06): the entry table as a function, the six
lists, and a generalised invariant `InvH` with

* a list `hl` of buffers currently owned by nobody (between `reclaim_data` stripping a
  buffer and the new owner receiving it),
* a list `fl` of entries currently on no list (between being taken out of the unused or a
  ghost partition and being put in flight),
* a flag `strict` that switches the field `inflight_ref` on or off.
-/
namespace Kdf.Lemmas.Cache
open Kdf.Model.Cache Kdf.Lemmas.CacheList

structure St where
  cap : Nat
  ent : Nat → Entry
  U : List Nat
  GB : List Nat
  B : List Nat
  P : List Nat
  GP : List Nat
  F : List Nat

def abs (c : Cache) : St := ⟨c.cap, c.ent, c.U, c.GB, c.B, c.P, c.GP, c.F⟩

def St.setEnt (s : St) (i : Nat) (v : Entry) : St :=
  { s with ent := fun j => if j = i then v else s.ent j }

@[simp] theorem St.setEnt_cap (s : St) (i v) : (s.setEnt i v).cap = s.cap := rfl
@[simp] theorem St.setEnt_U (s : St) (i v) : (s.setEnt i v).U = s.U := rfl
@[simp] theorem St.setEnt_GB (s : St) (i v) : (s.setEnt i v).GB = s.GB := rfl
@[simp] theorem St.setEnt_B (s : St) (i v) : (s.setEnt i v).B = s.B := rfl
@[simp] theorem St.setEnt_P (s : St) (i v) : (s.setEnt i v).P = s.P := rfl
@[simp] theorem St.setEnt_GP (s : St) (i v) : (s.setEnt i v).GP = s.GP := rfl
@[simp] theorem St.setEnt_F (s : St) (i v) : (s.setEnt i v).F = s.F := rfl
theorem St.setEnt_ent (s : St) (i v j) : (s.setEnt i v).ent j = if j = i then v else s.ent j := rfl
@[simp] theorem St.setEnt_ent_self (s : St) (i v) : (s.setEnt i v).ent i = v := by simp [St.setEnt_ent]
theorem St.setEnt_ent_ne (s : St) {i j} (v) (h : j ≠ i) : (s.setEnt i v).ent j = s.ent j := by
  simp [St.setEnt_ent, h]

structure InvH (s : St) (hl fl : List Nat) (strict : Prop) : Prop where
  cap_pos : 0 < s.cap
  part : (s.U ++ s.GB ++ s.B ++ s.P ++ s.GP ++ s.F ++ fl).Perm (List.range (2 * s.cap))
  bufs : (hl ++ (List.range (2 * s.cap)).filterMap (fun i => (s.ent i).data)).Perm (List.range s.cap)
  live_data : ∀ i ∈ s.B ++ s.P ++ s.F, (s.ent i).data.isSome = true
  ghost_nodata : ∀ i ∈ s.GB ++ s.GP, (s.ent i).data = none
  u_shape : ∃ u1 u2, s.U = u1 ++ u2 ∧ (∀ i ∈ u1, (s.ent i).data = none) ∧
    (∀ i ∈ u2, (s.ent i).data.isSome = true)
  keys_inj : ∀ i ∈ s.B ++ s.P ++ s.F, ∀ j ∈ s.B ++ s.P ++ s.F, (s.ent i).key = (s.ent j).key → i = j
  cached_valid : ∀ i ∈ s.B ++ s.P, (s.ent i).state = .valid
  inflight_invalid : ∀ i ∈ s.F, (s.ent i).state ≠ .valid
  ref_live : ∀ i, i < 2 * s.cap → (s.ent i).refcnt ≠ 0 → i ∈ s.B ++ s.P ++ s.F
  inflight_ref : strict → ∀ i ∈ s.F, (s.ent i).refcnt ≠ 0

namespace InvH
variable {s : St} {hl fl : List Nat} {st : Prop}

theorem nodup (h : InvH s hl fl st) : (s.U ++ s.GB ++ s.B ++ s.P ++ s.GP ++ s.F ++ fl).Nodup :=
  (perm_range_iff.1 h.part).1

theorem mem (h : InvH s hl fl st) (i : Nat) :
    i ∈ s.U ++ s.GB ++ s.B ++ s.P ++ s.GP ++ s.F ++ fl ↔ i < 2 * s.cap :=
  (perm_range_iff.1 h.part).2 i

end InvH

/-- `l₁.Perm l₂` where both sides are built from the same lists by `++` and `::`, by counting;
`using h` relates two of the lists by `h : l.Perm l'` -/
syntax "perm_tac" (" using " term)? : tactic
macro_rules
  | `(tactic| perm_tac) =>
    `(tactic| (simp only [St.setEnt_U, St.setEnt_GB, St.setEnt_B, St.setEnt_P, St.setEnt_GP, St.setEnt_F,
                 List.perm_iff_count, List.count_append, List.count_cons, List.count_nil]
               intro a; omega))
  | `(tactic| perm_tac using $h) =>
    `(tactic| (have hp := $h
               simp only [St.setEnt_U, St.setEnt_GB, St.setEnt_B, St.setEnt_P, St.setEnt_GP, St.setEnt_F,
                 List.perm_iff_count, List.count_append, List.count_cons, List.count_nil] at hp ⊢
               intro a; have := hp a; omega))

/-! Every step changes one entry `e` and moves `e` from one list to another.  The clauses of `InvH`
about a single entry (`InvAt`) carry over to every `i ≠ e` (`InvAt.away`) and are checked for `e`
according to the kind of list it ends up on; the clauses about the whole table have a lemma each. -/

structure InvAt (s : St) (st : Prop) (i : Nat) : Prop where
  live_data : i ∈ s.B ++ s.P ++ s.F → (s.ent i).data.isSome = true
  ghost_nodata : i ∈ s.GB ++ s.GP → (s.ent i).data = none
  cached_valid : i ∈ s.B ++ s.P → (s.ent i).state = .valid
  inflight_invalid : i ∈ s.F → (s.ent i).state ≠ .valid
  ref_live : i < 2 * s.cap → (s.ent i).refcnt ≠ 0 → i ∈ s.B ++ s.P ++ s.F
  inflight_ref : st → i ∈ s.F → (s.ent i).refcnt ≠ 0

/-- an index is on at most one of: cached (`B`, `P`), in flight (`F`), ghost (`GB`, `GP`), idle (`U`, `fl`) -/
structure Excl (s : St) (fl : List Nat) (e : Nat) : Prop where
  live_ghost : e ∈ s.B ++ s.P ++ s.F → e ∉ s.GB ++ s.GP
  cached_inflight : e ∈ s.B ++ s.P → e ∉ s.F
  idle_live : e ∈ s.U ++ fl → e ∉ s.B ++ s.P ++ s.F
  idle_ghost : e ∈ s.U ++ fl → e ∉ s.GB ++ s.GP
  float_U : e ∈ fl → e ∉ s.U

theorem excl_of_nodup {s : St} {fl : List Nat}
    (hn : (s.U ++ s.GB ++ s.B ++ s.P ++ s.GP ++ s.F ++ fl).Nodup) (e : Nat) : Excl s fl e := by
  have := List.nodup_iff_count.1 hn e
  simp only [List.count_append] at this
  constructor <;> simp only [← List.count_pos_iff, List.count_append] <;> omega

namespace InvAt
variable {s : St} {fl : List Nat} {st : Prop} {e : Nat}

theorem cached (x : Excl s fl e) (he : e ∈ s.B ++ s.P) (hd : (s.ent e).data.isSome = true)
    (hv : (s.ent e).state = .valid) : InvAt s st e :=
  ⟨fun _ => hd, fun hg => absurd hg (x.live_ghost (List.mem_append_left _ he)), fun _ => hv,
    fun hf => absurd hf (x.cached_inflight he), fun _ _ => List.mem_append_left _ he,
    fun _ hf => absurd hf (x.cached_inflight he)⟩

theorem inflight (x : Excl s fl e) (he : e ∈ s.F) (hd : (s.ent e).data.isSome = true)
    (hv : (s.ent e).state ≠ .valid) (hr : st → (s.ent e).refcnt ≠ 0) : InvAt s st e :=
  ⟨fun _ => hd, fun hg => absurd hg (x.live_ghost (List.mem_append_right _ he)),
    fun hc => absurd he (x.cached_inflight hc), fun _ => hv, fun _ _ => List.mem_append_right _ he,
    fun t _ => hr t⟩

theorem ghost (x : Excl s fl e) (he : e ∈ s.GB ++ s.GP) (hd : (s.ent e).data = none)
    (hr : (s.ent e).refcnt = 0) : InvAt s st e :=
  ⟨fun hl => absurd he (x.live_ghost hl), fun _ => hd,
    fun hc => absurd he (x.live_ghost (List.mem_append_left _ hc)),
    fun hf => absurd he (x.live_ghost (List.mem_append_right _ hf)), fun _ h => absurd hr h,
    fun _ hf => absurd he (x.live_ghost (List.mem_append_right _ hf))⟩

theorem idle (x : Excl s fl e) (he : e ∈ s.U ++ fl) (hr : (s.ent e).refcnt = 0) : InvAt s st e :=
  ⟨fun hl => absurd hl (x.idle_live he), fun hg => absurd hg (x.idle_ghost he),
    fun hc => absurd (List.mem_append_left _ hc) (x.idle_live he),
    fun hf => absurd (List.mem_append_right _ hf) (x.idle_live he), fun _ h => absurd hr h,
    fun _ hf => absurd (List.mem_append_right _ hf) (x.idle_live he)⟩

end InvAt

/-- `s'` is `s` except for the entry `e` and for the lists `e` is on -/
structure Away (e : Nat) (s s' : St) : Prop where
  cap : s'.cap = s.cap
  ent : ∀ i, i ≠ e → s'.ent i = s.ent i
  mem : ∀ i, i ≠ e → (i ∈ s'.GB ↔ i ∈ s.GB) ∧ (i ∈ s'.B ↔ i ∈ s.B) ∧ (i ∈ s'.P ↔ i ∈ s.P) ∧
    (i ∈ s'.GP ↔ i ∈ s.GP) ∧ (i ∈ s'.F ↔ i ∈ s.F)

theorem InvAt.away {s s' : St} {st : Prop} {e i : Nat} (ha : Away e s s') (hi : i ≠ e)
    (h : InvAt s st i) : InvAt s' st i := by
  obtain ⟨hGB, hB, hP, hGP, hF⟩ := ha.mem i hi
  obtain ⟨h1, h2, h3, h4, h5, h6⟩ := h
  constructor <;> simp only [List.mem_append, hGB, hB, hP, hGP, hF, ha.ent i hi, ha.cap] at * <;>
    assumption

/-- the buffers in hand (`hl`) and the buffers owned by entries are the `cap` buffers -/
abbrev Bufs (s : St) (hl : List Nat) : Prop :=
  (hl ++ (List.range (2 * s.cap)).filterMap (fun i => (s.ent i).data)).Perm (List.range s.cap)

abbrev UShape (s : St) : Prop :=
  ∃ u1 u2, s.U = u1 ++ u2 ∧ (∀ i ∈ u1, (s.ent i).data = none) ∧
    (∀ i ∈ u2, (s.ent i).data.isSome = true)

namespace Away
variable {s s' : St} {hl : List Nat} {e : Nat}

protected theorem setEnt (s : St) (e : Nat) (v : Entry) : Away e s (s.setEnt e v) :=
  ⟨rfl, fun _ hi => St.setEnt_ent_ne _ _ hi, fun _ _ => ⟨.rfl, .rfl, .rfl, .rfl, .rfl⟩⟩

theorem mem_live (ha : Away e s s') {i : Nat} (hi : i ≠ e) :
    i ∈ s'.B ++ s'.P ++ s'.F ↔ i ∈ s.B ++ s.P ++ s.F := by
  obtain ⟨-, hB, hP, -, hF⟩ := ha.mem i hi
  simp only [List.mem_append, hB, hP, hF]

theorem mem_cached (ha : Away e s s') {i : Nat} (hi : i ≠ e) :
    i ∈ s'.B ++ s'.P ↔ i ∈ s.B ++ s.P := by
  obtain ⟨-, hB, hP, -, -⟩ := ha.mem i hi
  simp only [List.mem_append, hB, hP]

theorem bufs_same (ha : Away e s s') (hd : (s'.ent e).data = (s.ent e).data) (h : Bufs s hl) :
    Bufs s' hl := by
  have hoth : ∀ j ∈ List.range (2 * s.cap), (s'.ent j).data = (s.ent j).data := fun j _ => by
    by_cases hj : j = e
    · rw [hj, hd]
    · rw [ha.ent j hj]
  unfold Bufs
  rw [ha.cap, filterMap_congr' hoth]
  exact h

theorem bufs_strip (ha : Away e s s') (he : e < 2 * s.cap) {b : Nat} (hb : (s.ent e).data = some b)
    (hn : (s'.ent e).data = none) (h : Bufs s hl) : Bufs s' (b :: hl) := by
  have key := perm_filterMap_strip (f := fun i => (s.ent i).data) (f' := fun i => (s'.ent i).data)
    List.nodup_range (List.mem_range.2 he) hb hn fun j hj => by rw [ha.ent j hj]
  unfold Bufs
  rw [ha.cap]
  exact (List.perm_middle.symm.trans (key.symm.append_left hl)).trans h

theorem bufs_fill (ha : Away e s s') (he : e < 2 * s.cap) {b : Nat} (hn : (s.ent e).data = none)
    (hb : (s'.ent e).data = some b) (h : Bufs s (b :: hl)) : Bufs s' hl := by
  have key := perm_filterMap_strip (f := fun i => (s'.ent i).data) (f' := fun i => (s.ent i).data)
    List.nodup_range (List.mem_range.2 he) hb hn fun j hj => by rw [ha.ent j hj]
  unfold Bufs
  rw [ha.cap]
  exact ((key.append_left hl).trans List.perm_middle).trans h

theorem ushape (ha : Away e s s') (hU : s'.U = s.U)
    (he : e ∈ s.U → (s'.ent e).data = (s.ent e).data) (h : UShape s) : UShape s' := by
  have hd : ∀ i ∈ s.U, (s'.ent i).data = (s.ent i).data := fun i hi => by
    by_cases hie : i = e
    · subst hie; exact he hi
    · rw [ha.ent i hie]
  obtain ⟨u1, u2, hu, h1, h2⟩ := h
  refine ⟨u1, u2, hU.trans hu, fun i hi => ?_, fun i hi => ?_⟩
  · rw [hd i (hu ▸ List.mem_append_left _ hi)]; exact h1 i hi
  · rw [hd i (hu ▸ List.mem_append_right _ hi)]; exact h2 i hi

end Away

/-- `s` is obtained from `s0` by evicting zero-reference entries and by touching entries
that are neither cached nor in flight -/
structure FrameS (s0 s : St) : Prop where
  cap : s.cap = s0.cap
  F : s.F = s0.F
  sub : ∀ i ∈ s.B ++ s.P, i ∈ s0.B ++ s0.P
  keep : ∀ i ∈ s0.B ++ s0.P, (s0.ent i).refcnt ≠ 0 → i ∈ s.B ++ s.P
  ent_live : ∀ i ∈ s.B ++ s.P ++ s.F, s.ent i = s0.ent i

/-- the unused partition is untouched, ghosts stay ghosts and keep their contents -/
structure FrameG (s0 s : St) : Prop where
  U : s.U = s0.U
  gb : ∀ i ∈ s0.GB, i ∈ s.GB
  gp : ∀ i ∈ s0.GP, i ∈ s.GP
  ent_g : ∀ i ∈ s0.GB ++ s0.GP, s.ent i = s0.ent i

namespace FrameS

theorem refl (s : St) : FrameS s s :=
  ⟨rfl, rfl, fun _ h => h, fun _ h _ => h, fun _ _ => rfl⟩

variable {s0 s s' : St} {e i : Nat}

theorem mem_live (h : FrameS s0 s) (hi : i ∈ s.B ++ s.P ++ s.F) :
    i ∈ s0.B ++ s0.P ++ s0.F :=
  (List.mem_append.1 hi).elim (fun hc => List.mem_append_left _ (h.sub i hc))
    fun hf => List.mem_append_right _ (h.F ▸ hf)

theorem keep_live (h : FrameS s0 s) (hi : i ∈ s0.B ++ s0.P ++ s0.F)
    (hr : (s0.ent i).refcnt ≠ 0) : i ∈ s.B ++ s.P ++ s.F :=
  (List.mem_append.1 hi).elim (fun hc => List.mem_append_left _ (h.keep i hc hr))
    fun hf => List.mem_append_right _ (h.F ▸ hf)

theorem trans {s0 s1 s2 : St} (h1 : FrameS s0 s1) (h2 : FrameS s1 s2) : FrameS s0 s2 := by
  refine ⟨h2.cap.trans h1.cap, h2.F.trans h1.F, fun i hi => h1.sub i (h2.sub i hi), ?_, ?_⟩
  · intro i hi hr
    have hi1 := h1.keep i hi hr
    have he := h1.ent_live i (List.mem_append_left _ hi1)
    exact h2.keep i hi1 (he ▸ hr)
  · intro i hi
    rw [h2.ent_live i hi, h1.ent_live i (h2.mem_live hi)]

theorem congr_left {s0' : St} (h : FrameS s0' s) (hc : s0'.cap = s0.cap) (hB : s0'.B = s0.B)
    (hP : s0'.P = s0.P) (hF : s0'.F = s0.F) (he : s0'.ent = s0.ent) : FrameS s0 s := by
  obtain ⟨h1, h2, h3, h4, h5⟩ := h
  rw [hc] at h1; rw [hF] at h2; rw [hB, hP] at h3 h4; rw [he] at h4 h5
  exact ⟨h1, h2, h3, h4, h5⟩

theorem of_away (ha : Away e s s') (hF : s'.F = s.F)
    (he : e ∉ s'.B ++ s'.P ++ s'.F) (hr : e ∈ s.B ++ s.P → (s.ent e).refcnt = 0) : FrameS s s' := by
  refine ⟨ha.cap, hF, fun i hi => ?_, fun i hi hr' => ?_, fun i hi => ha.ent i fun hie : i = e => he (hie ▸ hi)⟩
  · exact (ha.mem_cached fun hie => he (hie ▸ List.mem_append_left _ hi)).1 hi
  · exact (ha.mem_cached fun hie : i = e => hr' (hie ▸ hr (hie ▸ hi))).2 hi

theorem setEnt_other (he : e ∉ s.B ++ s.P ++ s.F) (v : Entry) :
    FrameS s (s.setEnt e v) :=
  of_away (.setEnt s e v) rfl he fun hc => absurd (List.mem_append_left _ hc) he

end FrameS

theorem FrameG.of_away {s s' : St} {e : Nat} (ha : Away e s s') (hU : s'.U = s.U)
    (he : e ∉ s.GB ++ s.GP) : FrameG s s' := by
  have hne : ∀ i ∈ s.GB ++ s.GP, i ≠ e := fun i hi hie => he (hie ▸ hi)
  exact ⟨hU, fun i hi => ((ha.mem i (hne i (List.mem_append_left _ hi))).1).2 hi,
    fun i hi => ((ha.mem i (hne i (List.mem_append_right _ hi))).2.2.2.1).2 hi,
    fun i hi => ha.ent i (hne i hi)⟩

namespace InvH
variable {s s' : St} {hl hl' fl fl' : List Nat} {st : Prop} {e : Nat}

theorem invAt (h : InvH s hl fl st) (i : Nat) : InvAt s st i :=
  ⟨h.live_data i, h.ghost_nodata i, h.cached_valid i, h.inflight_invalid i, h.ref_live i,
    fun t => h.inflight_ref t i⟩

theorem excl (h : InvH s hl fl st) (e : Nat) : Excl s fl e := excl_of_nodup h.nodup e

theorem lt_of_mem (h : InvH s hl fl st) (he : e ∈ s.U ++ s.GB ++ s.B ++ s.P ++ s.GP ++ s.F ++ fl) :
    e < 2 * s.cap :=
  (h.mem e).1 he

theorem lt_of_live (h : InvH s hl fl st) (he : e ∈ s.B ++ s.P ++ s.F) : e < 2 * s.cap := by
  refine h.lt_of_mem ?_
  simp only [List.mem_append] at he ⊢
  rcases he with (he | he) | he <;> simp [he]

theorem refcnt_eq_zero (h : InvH s hl fl st)
    (he : e ∈ s.U ++ s.GB ++ s.B ++ s.P ++ s.GP ++ s.F ++ fl) (hn : e ∉ s.B ++ s.P ++ s.F) :
    (s.ent e).refcnt = 0 :=
  Decidable.byContradiction fun hr => hn (h.ref_live e (h.lt_of_mem he) hr)

theorem key_ne (h : InvH s hl fl st) (he : e ∈ s.B ++ s.P ++ s.F) :
    ∀ j ∈ s.B ++ s.P ++ s.F, j ≠ e → (s.ent j).key ≠ (s.ent e).key :=
  fun j hj hne hk => hne (h.keys_inj j hj e he hk)

/-- the clauses about the whole table are given, those about single entries are checked for `e` only -/
theorem of_away (h : InvH s hl fl st) (ha : Away e s s')
    (part : (s'.U ++ s'.GB ++ s'.B ++ s'.P ++ s'.GP ++ s'.F ++ fl').Perm
      (s.U ++ s.GB ++ s.B ++ s.P ++ s.GP ++ s.F ++ fl))
    (bufs : Bufs s' hl') (u_shape : UShape s')
    (key : Excl s' fl' e → e ∈ s'.B ++ s'.P ++ s'.F →
      ∀ j ∈ s.B ++ s.P ++ s.F, j ≠ e → (s.ent j).key ≠ (s'.ent e).key)
    (at_e : Excl s' fl' e → InvAt s' st e) : InvH s' hl' fl' st := by
  have x := excl_of_nodup (part.nodup_iff.2 h.nodup) e
  have key := key x
  have hat : ∀ i, InvAt s' st i := fun i =>
    if hi : i = e then hi ▸ at_e x else (h.invAt i).away ha hi
  refine ⟨ha.cap ▸ h.cap_pos, ha.cap ▸ part.trans h.part, bufs, fun i => (hat i).live_data,
    fun i => (hat i).ghost_nodata, u_shape, fun i hi j hj hk => ?_, fun i => (hat i).cached_valid,
    fun i => (hat i).inflight_invalid, fun i => (hat i).ref_live,
    fun t i => (hat i).inflight_ref t⟩
  by_cases hie : i = e <;> by_cases hje : j = e
  · rw [hie, hje]
  · subst hie
    rw [ha.ent j hje] at hk
    exact absurd hk.symm (key hi j ((ha.mem_live hje).1 hj) hje)
  · subst hje
    rw [ha.ent i hie] at hk
    exact absurd hk (key hj i ((ha.mem_live hie).1 hi) hie)
  · rw [ha.ent i hie, ha.ent j hje] at hk
    exact h.keys_inj i ((ha.mem_live hie).1 hi) j ((ha.mem_live hje).1 hj) hk

/-- `evict_entry` + stripping the buffer: the victim `z` goes from `B` to the MRU end of `GB`
(`evict_probe`) or from `P` to the MRU end of `GP` (`evict_prec`) -/
theorem evict (h : InvH s hl fl st) {z : Nat} (hr : (s.ent z).refcnt = 0) {t : St}
    (ht : z ∈ s.B ∧ t = { s with B := s.B.erase z, GB := s.GB ++ [z] } ∨
      z ∈ s.P ∧ t = { s with P := s.P.erase z, GP := z :: s.GP }) :
    ∃ b, (s.ent z).data = some b ∧ z ∈ s.B ++ s.P ∧
      InvH (t.setEnt z { s.ent z with data := none }) (b :: hl) fl st ∧
      FrameS s (t.setEnt z { s.ent z with data := none }) ∧
      FrameG s (t.setEnt z { s.ent z with data := none }) := by
  have hzc : z ∈ s.B ++ s.P := by rcases ht with ⟨hz, -⟩ | ⟨hz, -⟩ <;> simp [hz]
  have hzl : z ∈ s.B ++ s.P ++ s.F := List.mem_append_left _ hzc
  obtain ⟨b, hb⟩ := Option.isSome_iff_exists.1 (h.live_data z hzl)
  have ha : Away z s (t.setEnt z { s.ent z with data := none }) := by
    rcases ht with ⟨-, rfl⟩ | ⟨-, rfl⟩ <;>
      exact ⟨rfl, fun i hi => St.setEnt_ent_ne _ _ hi, fun i hi => by simp [List.mem_erase_of_ne hi, hi]⟩
  have hg : z ∈ t.GB ++ t.GP := by rcases ht with ⟨-, rfl⟩ | ⟨-, rfl⟩ <;> simp
  have hU : t.U = s.U := by rcases ht with ⟨-, rfl⟩ | ⟨-, rfl⟩ <;> rfl
  have hF : t.F = s.F := by rcases ht with ⟨-, rfl⟩ | ⟨-, rfl⟩ <;> rfl
  have hi : InvH (t.setEnt z { s.ent z with data := none }) (b :: hl) fl st :=
    h.of_away ha
      (by rcases ht with ⟨hz, rfl⟩ | ⟨hz, rfl⟩ <;> perm_tac using List.perm_cons_erase hz)
      (ha.bufs_strip (h.lt_of_live hzl) hb (by simp) h.bufs)
      (ha.ushape hU (fun hU => absurd hzl ((h.excl z).idle_live (by simp [hU]))) h.u_shape)
      (fun x hl => absurd hg (x.live_ghost hl))
      (fun x => .ghost x hg (by simp) (by simpa using hr))
  exact ⟨b, hb, hzc, hi, .of_away ha hF (fun hl => (hi.excl z).live_ghost hl hg) (fun _ => hr),
    .of_away ha hU ((h.excl z).live_ghost hzl)⟩

/-- `reclaim_data` from the unused partition: the first buffer-holding unused entry `d`
loses its buffer -/
theorem donor (h : InvH s hl fl st) {d : Nat} {u1 u2 : List Nat} (hU : s.U = u1 ++ d :: u2)
    (hu1 : ∀ i ∈ u1, (s.ent i).data = none) (hu2 : ∀ i ∈ d :: u2, (s.ent i).data.isSome = true) :
    ∃ b, (s.ent d).data = some b ∧
      InvH (s.setEnt d { s.ent d with data := none }) (b :: hl) fl st := by
  obtain ⟨b, hb⟩ := Option.isSome_iff_exists.1 (hu2 d (by simp))
  have hdU : d ∈ s.U ++ fl := by simp [hU]
  have ha := Away.setEnt s d { s.ent d with data := none }
  have hd2 : d ∉ u2 := fun hm => by
    have := List.nodup_iff_count.1 h.nodup d
    have := List.count_pos_iff.2 hm
    simp only [hU, List.count_append, List.count_cons_self] at *
    omega
  refine ⟨b, hb, h.of_away ha (List.Perm.refl _)
    (ha.bufs_strip (h.lt_of_mem (by simp [hU])) hb (by simp) h.bufs)
    ⟨u1 ++ [d], u2, by simp [hU], fun i hi => ?_, fun i hi => ?_⟩
    (fun x hl => absurd hl (x.idle_live hdU))
    (fun x => .idle x hdU ?_)⟩
  · rw [St.setEnt_ent]
    split
    · rfl
    · rcases List.mem_append.1 hi with hi | hi
      · exact hu1 i hi
      · simp_all
  · rw [St.setEnt_ent_ne _ _ (fun hid : i = d => hd2 (hid ▸ hi))]
    exact hu2 i (List.mem_cons_of_mem _ hi)
  · rw [St.setEnt_ent_self]
    exact h.refcnt_eq_zero (by simp [hU]) ((h.excl d).idle_live hdU)

theorem floatU (h : InvH s hl fl st) {U' : List Nat} (hU : s.U = U' ++ [e]) :
    InvH { s with U := U' } hl (e :: fl) st := by
  have heU : e ∈ s.U ++ fl := by simp [hU]
  refine h.of_away ⟨rfl, fun _ _ => rfl, fun _ _ => by simp⟩ (by rw [hU]; perm_tac) h.bufs ?_
    (fun x hl => absurd hl (x.idle_live (by simp)))
    (fun x => .idle x (by simp) (h.refcnt_eq_zero (by simp [hU]) ((h.excl e).idle_live heU)))
  obtain ⟨u1, u2, hu, h1, h2⟩ := h.u_shape
  rcases List.eq_nil_or_concat u2 with rfl | ⟨u2', x, rfl⟩
  · refine ⟨U', [], by simp, fun i hi => h1 i ?_, by simp⟩
    rw [List.append_nil] at hu
    rw [← hu, hU]; simp [hi]
  · rw [hU, List.concat_eq_append, ← List.append_assoc] at hu
    obtain ⟨rfl, -⟩ := List.append_inj' hu rfl
    exact ⟨u1, u2', rfl, h1, fun i hi => h2 i (by simp [hi])⟩

theorem floatG (h : InvH s hl fl st) {g1 g2 : List Nat} {t : St}
    (ht : s.GB = g1 ++ e :: g2 ∧ t = { s with GB := g1 ++ g2 } ∨
      s.GP = g1 ++ e :: g2 ∧ t = { s with GP := g1 ++ g2 }) : InvH t hl (e :: fl) st := by
  rcases ht with ⟨hG, rfl⟩ | ⟨hG, rfl⟩ <;>
    exact h.of_away ⟨rfl, fun _ _ => rfl, fun i hi => by simp [hG, hi]⟩ (by rw [hG]; perm_tac) h.bufs
      h.u_shape (fun x hl => absurd hl (x.idle_live (by simp)))
      (fun x => .idle x (by simp) (h.refcnt_eq_zero (by simp [hG]) fun hl =>
        (h.excl e).live_ghost hl (by simp [hG])))

theorem fill {b : Nat} (h : InvH s (b :: hl) (e :: fl) st) (hd : (s.ent e).data = none) :
    InvH (s.setEnt e { s.ent e with data := some b }) hl (e :: fl) st := by
  have hefl : e ∈ s.U ++ e :: fl := by simp
  have ha := Away.setEnt s e { s.ent e with data := some b }
  exact h.of_away ha (List.Perm.refl _) (ha.bufs_fill (h.lt_of_mem (by simp)) hd (by simp) h.bufs)
    (ha.ushape rfl (fun hU => absurd hU ((h.excl e).float_U (by simp))) h.u_shape)
    (fun x hl => absurd hl (x.idle_live hefl))
    (fun x => .idle x hefl (by simpa using h.refcnt_eq_zero (by simp) ((h.excl e).idle_live hefl)))

theorem launch {s : St} {hl fl : List Nat} {st : Prop} {e : Nat} (h : InvH s hl (e :: fl) st)
    {v : Entry} (hd : (s.ent e).data.isSome = true) (hvd : v.data = (s.ent e).data)
    (hvs : v.state ≠ .valid) (hvr : v.refcnt ≠ 0)
    (hvk : ∀ i ∈ s.B ++ s.P ++ s.F, (s.ent i).key ≠ v.key) :
    InvH (St.setEnt { s with F := s.F ++ [e] } e v) hl fl st := by
  have ha : Away e s (St.setEnt { s with F := s.F ++ [e] } e v) :=
    ⟨rfl, fun i hi => St.setEnt_ent_ne _ _ hi, fun i hi => by simp [hi]⟩
  exact h.of_away ha (by perm_tac) (ha.bufs_same (by simpa using hvd) h.bufs)
    (ha.ushape rfl (fun hU => absurd hU ((h.excl e).float_U (by simp))) h.u_shape)
    (fun _ _ j hj _ => by simpa using hvk j hj)
    (fun x => .inflight x (by simp) (by simpa [hvd] using hd) (by simpa using hvs)
      (fun _ => by simpa using hvr))

theorem update {s : St} {hl fl : List Nat} {st : Prop} {e : Nat} (h : InvH s hl fl st)
    {v : Entry} (hvd : v.data = (s.ent e).data) (hvk : v.key = (s.ent e).key)
    (hvs : v.state = .valid ↔ (s.ent e).state = .valid)
    (hvr : v.refcnt ≠ 0 → e < 2 * s.cap → e ∈ s.B ++ s.P ++ s.F)
    (hvf : st → e ∈ s.F → v.refcnt ≠ 0) :
    InvH (s.setEnt e v) hl fl st := by
  have ha := Away.setEnt s e v
  refine h.of_away ha (List.Perm.refl _) (ha.bufs_same (by simpa using hvd) h.bufs)
    (ha.ushape rfl (fun _ => by simpa using hvd) h.u_shape)
    (fun _ hl => by simpa [hvk] using h.key_ne hl) (fun _ => ?_)
  have he := h.invAt e
  constructor <;> simp only [St.setEnt_ent_self, St.setEnt_B, St.setEnt_P, St.setEnt_F, St.setEnt_GB,
    St.setEnt_GP, St.setEnt_cap, hvd, hvs]
  · exact he.live_data
  · exact he.ghost_nodata
  · exact he.cached_valid
  · exact fun hf hv => he.inflight_invalid hf (hvs.1 hv)
  · exact fun hlt hr => hvr hr hlt
  · exact hvf

/-- a hit moves the entry to the MRU position of `P`, from `P` or from `B` -/
theorem hit (h : InvH s hl fl st) {t : St}
    (ht : e ∈ s.P ∧ t = { s with P := e :: s.P.erase e } ∨
      e ∈ s.B ∧ t = { s with B := s.B.erase e, P := e :: s.P }) : InvH t hl fl st := by
  rcases ht with ⟨he, rfl⟩ | ⟨he, rfl⟩ <;>
    exact h.of_away ⟨rfl, fun _ _ => rfl, fun i hi => by simp [List.mem_erase_of_ne hi, hi]⟩
      (by perm_tac using List.perm_cons_erase he) h.bufs h.u_shape (fun _ _ => h.key_ne (by simp [he]))
      (fun x => .cached x (by simp) (h.live_data e (by simp [he])) (h.cached_valid e (by simp [he])))

/-- `cache_insert` of an in-flight entry: it becomes valid and goes to the MRU end of `B` (probe)
or the MRU end of `P` (precious) -/
theorem insert (h : InvH s hl fl st) (he : e ∈ s.F) {t : St}
    (ht : t = { s with F := s.F.erase e, B := s.B ++ [e] } ∨
      t = { s with F := s.F.erase e, P := e :: s.P }) :
    InvH (t.setEnt e { s.ent e with state := .valid }) hl fl st := by
  have hel : e ∈ s.B ++ s.P ++ s.F := by simp [he]
  have ha : Away e s (t.setEnt e { s.ent e with state := .valid }) := by
    rcases ht with rfl | rfl <;>
      exact ⟨rfl, fun i hi => St.setEnt_ent_ne _ _ hi, fun i hi => by simp [List.mem_erase_of_ne hi, hi]⟩
  exact h.of_away ha (by rcases ht with rfl | rfl <;> perm_tac using List.perm_cons_erase he)
    (ha.bufs_same (by simp) h.bufs)
    (ha.ushape (by rcases ht with rfl | rfl <;> rfl)
      (fun hU => absurd hel ((h.excl e).idle_live (by simp [hU]))) h.u_shape)
    (fun _ _ => by simpa using h.key_ne hel)
    (fun x => .cached x (by rcases ht with rfl | rfl <;> simp) (by simpa using h.live_data e hel)
      (by simp))

/-- `cache_discard` dropping the last reference of an in-flight entry -/
theorem discardF (h : InvH s hl fl st) (he : e ∈ s.F) :
    InvH (St.setEnt { s with F := s.F.erase e, U := s.U ++ [e] } e { s.ent e with refcnt := 0 })
      hl fl st := by
  have hel : e ∈ s.B ++ s.P ++ s.F := by simp [he]
  have heU : e ∉ s.U := fun hU => absurd hel ((h.excl e).idle_live (by simp [hU]))
  have ha : Away e s (St.setEnt { s with F := s.F.erase e, U := s.U ++ [e] } e
      { s.ent e with refcnt := 0 }) :=
    ⟨rfl, fun i hi => St.setEnt_ent_ne _ _ hi, fun i hi => by simp [List.mem_erase_of_ne hi]⟩
  obtain ⟨u1, u2, hu, h1, h2⟩ := h.u_shape
  refine h.of_away ha (by perm_tac using List.perm_cons_erase he) (ha.bufs_same (by simp) h.bufs)
    ⟨u1, u2 ++ [e], by simp [hu], fun i hi => ?_, fun i hi => ?_⟩
    (fun x hl => absurd hl (x.idle_live (by simp))) (fun x => .idle x (by simp) (by simp))
  · rw [St.setEnt_ent_ne _ _ (fun hie : i = e => heU (by simp [← hie, hu, hi]))]
    exact h1 i hi
  · rw [St.setEnt_ent]
    split
    · simpa using h.live_data e hel
    · exact h2 i (by simp_all)

end InvH
end Kdf.Lemmas.Cache
