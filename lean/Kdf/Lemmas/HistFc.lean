import Kdf.Model.Hist
/-! `fcache_get`: what the read path and the mmap path deliver below and behind the end of the file. -/
namespace Kdf.Lemmas.Hist
open Kdf.Model.Hist

theorem take_data {f : Nat → Nat} {n m : Nat} (h : n ≤ m) :
    (FcOut.data ((List.range m).map f)).take n = some ((List.range n).map f) := by
  show some (((List.range m).map f).take n) = _
  rw [← List.map_take, List.take_range, Nat.min_eq_left h]

variable (file : List Nat) (pgsz mmapsz pos : Nat)

/-- the rest of the page is inside the rest of the mmap window -/
theorem page_rest_le_window (hpg : 0 < pgsz) (hmm : pgsz ∣ mmapsz)
    (hm0 : 0 < mmapsz) : pgsz - pos % pgsz ≤ mmapsz - pos % mmapsz := by
  obtain ⟨c, rfl⟩ := hmm
  have hc : 0 < c := Nat.pos_of_mul_pos_left hm0
  rw [Nat.mod_mul]
  have h1 : pos / pgsz % c < c := Nat.mod_lt _ hc
  have h2 : pgsz * (pos / pgsz % c + 1) ≤ pgsz * c := Nat.mul_le_mul_left _ h1
  rw [Nat.mul_succ] at h2
  have h3 : pos % pgsz < pgsz := Nat.mod_lt _ hpg
  omega

theorem getRead_inside (hin : pos / pgsz * pgsz < file.length) :
    getRead file pgsz pos =
      .data ((List.range (pgsz - pos % pgsz)).map fun j => fileByte file (pos + j)) := by
  unfold getRead
  rw [if_neg fun h => Nat.not_le_of_lt hin h.2]

theorem getMmap_inside (hin : pos / pgsz * pgsz < file.length) :
    getMmap file pgsz mmapsz pos =
      .data ((List.range (mmapsz - pos % mmapsz)).map fun j => fileByte file (pos + j)) := by
  unfold getMmap
  rw [if_neg (Nat.not_le_of_lt hin)]

theorem getRead_refused (h0 : 0 < pos / pgsz * pgsz)
    (hout : file.length ≤ pos / pgsz * pgsz) : getRead file pgsz pos = .nodata := by
  unfold getRead
  rw [if_pos ⟨h0, hout⟩]

theorem getMmap_refused (hout : file.length ≤ pos / pgsz * pgsz) : getMmap file pgsz mmapsz pos = .nodata := by
  unfold getMmap
  rw [if_pos hout]

theorem fcacheGet_refused (h0 : 0 < pos / pgsz * pgsz)
    (hout : file.length ≤ pos / pgsz * pgsz) (pol : Policy) :
    (fcacheGet file pgsz mmapsz pol pos).2 = .nodata := by
  have hr := getRead_refused file pgsz pos h0 hout
  have hm := getMmap_refused file pgsz mmapsz pos hout
  cases pol <;> simp only [fcacheGet, hr, hm]

end Kdf.Lemmas.Hist
