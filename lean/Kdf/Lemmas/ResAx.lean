import Kdf.Lemmas.ResFn
/-! Ledger lemmas for C15, continued: `fcache_get_fb`, the Xen table scan, the
SADUMP magic scan, libaddrxlat's read cache (`get_cache_buf`, `cleanup_cache`)
and the callback records (`addrxlat_ctx_add_cb` / `addrxlat_ctx_del_cb`). -/
namespace Kdf.Lemmas.Res
open Kdf.Model.Res

variable (cfg : Cfg) (L : List Res)

/-- what an entry handed out by `fcache_get_fb` holds -/
def fbRes : Option Fce → List Res
  | some f => [Res.pin f.c f.key]
  | none => []

theorem fcachePut_runs (r : Option Fce) : Runs (fcachePut r) (fbRes r ++ L) L := by
  cases r with
  | none => exact Runs.nil L
  | some f => exact Runs.put (.refl _)

theorem fcacheGetFb_runs (pol : Policy) (fidx pos sz : Nat) (orc : List Ext) :
    Runs (fcacheGetFb cfg pol fidx pos sz orc).evs L
      (heldAfter [] (fun rp => fbRes rp.1) (fcacheGetFb cfg pol fidx pos sz orc).res ++ L) := by
  unfold fcacheGetFb
  have hg := fcacheGet_runs cfg L pol fidx pos orc
  generalize fcacheGet cfg pol fidx pos orc = out at hg
  rcases out with ⟨⟨f, pol'⟩ | s | _, e, o⟩
  · dsimp only
    split
    · have hput : Runs (e ++ [Ev.put f.c f.key]) L L := Runs.append hg (Runs.put (.refl _))
      have h2 := fcachePread_runs cfg L sz pol' sz fidx pos o
      generalize fcachePread cfg sz pol' sz fidx pos o = out2 at h2
      rcases out2 with ⟨p | s | _, e2, o2⟩
      · exact Runs.append hput h2
      · exact Runs.append hput h2
      · exact Runs.nil L
    · exact hg
  · exact hg
  · exact Runs.nil L

theorem xenMapScan_runs (entsz : Nat) (addOk : Nat → Bool) (n k : Nat) (pol : Policy) (pos : Nat)
    (st : ScanSt) (orc : List Ext) :
    Runs (xenMapScan cfg entsz addOk n k pol pos st orc).evs (fbRes st.cur ++ L)
      (heldAfter (fbRes st.cur) (fun _ => []) (xenMapScan cfg entsz addOk n k pol pos st orc).res ++ L) := by
  induction n generalizing k pol pos st orc with
  | zero =>
    rw [xenMapScan]
    exact fcachePut_runs L st.cur
  | succ n ih =>
    have hcur := fcachePut_runs L st.cur
    rw [xenMapScan]
    by_cases hl : st.left < entsz
    · rw [if_pos hl]
      have hfb := fcacheGetFb_runs cfg L pol 0 pos entsz orc
      generalize fcacheGetFb cfg pol 0 pos entsz orc = out at hfb
      rcases out with ⟨⟨cur', pol'⟩ | s | _, e, o⟩
      · dsimp only
        have hpre : Runs (fcachePut st.cur ++ e) (fbRes st.cur ++ L) (fbRes cur' ++ L) := Runs.append hcur hfb
        cases addOk k with
        | true =>
          generalize hx : xenMapScan cfg entsz addOk n (k + 1) pol' (pos + entsz) ⟨cur', _⟩ o = out2
          have hrec : Runs out2.evs (fbRes cur' ++ L) (heldAfter (fbRes cur') (fun _ => []) out2.res ++ L) :=
            hx ▸ ih _ _ _ ⟨cur', _⟩ _
          rcases out2 with ⟨p | s | _, e2, o2⟩
          · exact Runs.append hpre hrec
          · exact Runs.append hpre hrec
          · exact Runs.nil _
        | false => exact Runs.append hpre (fcachePut_runs L cur')
      · exact Runs.append hcur hfb
      · exact Runs.nil _
    · rw [if_neg hl]
      cases addOk k with
      | true => exact ih (k + 1) pol (pos + entsz) ⟨st.cur, st.left - entsz⟩ orc
      | false => exact hcur

theorem magicLoop_runs (fidx : Nat) (cont : Nat → Bool) (fuel k : Nat) (pol : Policy) (pos : Nat)
    (f : Fce) (left : Nat) (orc : List Ext) :
    Runs (magicLoop cfg fidx cont fuel k pol pos f left orc).evs (pinOf f :: L)
      (heldAfter [pinOf f] (fun _ => []) (magicLoop cfg fidx cont fuel k pol pos f left orc).res ++ L) := by
  induction fuel generalizing k pol pos f left orc with
  | zero =>
    rw [magicLoop]
    exact Runs.nil _
  | succ n ih =>
    have hput : Runs [Ev.put f.c f.key] (pinOf f :: L) L := Runs.put (.refl _)
    rw [magicLoop]
    by_cases hl : left - 4 = 0
    · rw [if_pos hl]
      have hg := fcacheGet_runs cfg L pol fidx (pos + 4) orc
      generalize fcacheGet cfg pol fidx (pos + 4) orc = out at hg
      rcases out with ⟨⟨f', pol'⟩ | s | _, e, o⟩
      · dsimp only
        have hpre : Runs ([Ev.put f.c f.key] ++ e) (pinOf f :: L) (pinOf f' :: L) := Runs.append hput hg
        have hput' : Runs [Ev.put f'.c f'.key] (pinOf f' :: L) L := Runs.put (.refl _)
        by_cases h4 : f'.len < 4
        · rw [if_pos h4]; exact Runs.append hpre hput'
        · rw [if_neg h4]
          cases cont k with
          | true =>
            generalize hx : magicLoop cfg fidx cont n (k + 1) pol' (pos + 4) f' f'.len o = out2
            have hrec : Runs out2.evs (pinOf f' :: L) (heldAfter [pinOf f'] (fun _ => []) out2.res ++ L) :=
              hx ▸ ih _ _ _ _ _ _
            rcases out2 with ⟨p | s | _, e2, o2⟩
            · exact Runs.append hpre hrec
            · exact Runs.append hpre hrec
            · exact Runs.nil _
          | false => exact Runs.append hpre hput'
      · exact Runs.append hput hg
      · exact Runs.nil _
    · rw [if_neg hl]
      cases cont k with
      | true => exact ih (k + 1) pol (pos + 4) f (left - 4) orc
      | false => exact hput

theorem verifyMagic_runs (fidx : Nat) (cont : Nat → Bool) (fuel : Nat) (pol : Policy) (pos : Nat)
    (orc : List Ext) :
    Runs (verifyMagic cfg fidx cont fuel pol pos orc).evs L L := by
  unfold verifyMagic
  have hg := fcacheGet_runs cfg L pol fidx pos orc
  generalize fcacheGet cfg pol fidx pos orc = out at hg
  rcases out with ⟨⟨f, pol'⟩ | s | _, e, o⟩
  · dsimp only
    split
    · exact Runs.append hg (Runs.put (.refl _))
    · have hl := magicLoop_runs cfg L fidx cont fuel 0 pol' pos f f.len o
      generalize magicLoop cfg fidx cont fuel 0 pol' pos f f.len o = out2 at hl
      rcases out2 with ⟨p | s | _, e2, o2⟩
      · exact Runs.append hg hl
      · exact Runs.append hg hl
      · exact Runs.nil L
  · exact hg
  · exact Runs.nil L

theorem lentRes_pageOf (as addr : Nat) :
    lentRes cfg (pageOf cfg as addr).1 (pageOf cfg as addr).2 = lentRes cfg as addr := by
  have h0 : (addr - addr % cfg.ps) % cfg.ps = 0 :=
    Nat.sub_mod_eq_zero_of_mod_eq (Nat.mod_mod _ _).symm
  simp only [lentRes, pageOf, h0, Nat.sub_zero]

theorem rcRes_cons (s : Option Page) (t : List (Option Page)) :
    rcRes cfg (s :: t) = rcRes cfg [s] ++ rcRes cfg t := by
  cases s with
  | none => rfl
  | some q => simp [rcRes]

theorem rcRes_set (slots : List (Option Page)) (i : Nat) (s : Option Page) (hi : i < slots.length) :
    (rcRes cfg (slots.set i s)).Perm (rcRes cfg [s] ++ rcRes cfg (slots.set i none)) := by
  induction slots generalizing i with
  | nil => exact absurd hi (Nat.not_lt_zero i)
  | cons a t ih =>
    cases i with
    | zero => exact .of_eq (rcRes_cons cfg s t)
    | succ j =>
      rw [List.set_cons_succ, List.set_cons_succ, rcRes_cons cfg a, rcRes_cons cfg a (t.set j none)]
      exact ((ih j (Nat.lt_of_succ_lt_succ hi)).append_left _).trans (List.perm_append_comm_assoc _ _ _)

theorem slotPut_runs (s : Option Page) :
    Runs (slotPut cfg s) (rcRes cfg [s] ++ L) L := by
  cases s with
  | none => exact Runs.nil L
  | some q => simpa [rcRes, slotPut] using addrxlatPutPage_runs cfg L q.1 q.2

theorem cleanupCache_runs (slots : List (Option Page)) :
    Runs (cleanupCache cfg slots) (rcRes cfg slots ++ L) L := by
  induction slots with
  | nil => exact Runs.nil L
  | cons s t ih =>
    rw [rcRes_cons cfg s t, List.append_assoc]
    exact Runs.append (slotPut_runs cfg (rcRes cfg t ++ L) s) ih

theorem rcFind_lt {slots : List (Option Page)} {p : Page} {i : Nat} (h : rcFind slots p = some i) :
    i < slots.length := by
  induction slots generalizing i with
  | nil => cases h
  | cons s t ih =>
    rw [rcFind] at h
    split at h
    · cases h; exact Nat.zero_lt_succ _
    · obtain ⟨j, hj, rfl⟩ := Option.map_eq_some_iff.mp h
      exact Nat.succ_lt_succ (ih hj)

theorem _root_.Kdf.Model.Res.RdCache.WF.lru_lt {rc : RdCache} (hwf : rc.WF) : rc.order.getLast?.getD 0 < rc.slots.length := by
  obtain ⟨hne, hall⟩ := hwf
  cases hl : rc.order.getLast? with
  | none => exact absurd (List.getLast?_eq_none_iff.mp hl) hne
  | some i => exact hall i (List.mem_of_getLast? hl)

theorem _root_.Kdf.Model.Res.RdCache.WF.touch {rc : RdCache} {i : Nat} (hwf : rc.WF) (hi : i < rc.slots.length) : (rcTouch rc i).WF := by
  refine ⟨by simp [rcTouch], ?_⟩
  intro j hj
  simp only [rcTouch, List.mem_cons] at hj
  rcases hj with hj | hj
  · subst hj; exact hi
  · exact hwf.2 j (List.mem_of_mem_erase hj)

theorem _root_.Kdf.Model.Res.RdCache.WF.set {rc : RdCache} (hwf : rc.WF) (i : Nat) (s : Option Page) :
    RdCache.WF { rc with slots := rc.slots.set i s } := by
  refine ⟨hwf.1, ?_⟩
  intro j hj
  simpa using hwf.2 j hj

theorem getCacheBuf_found {cfg : Cfg} {pol : Policy} {rc : RdCache} {as addr : Nat} {pages : Nat → PageInfo}
    {orc : List Ext} {i : Nat} (h : rcFind rc.slots (pageOf cfg as addr) = some i) :
    getCacheBuf cfg pol rc as addr pages orc = (⟨.ok pol, [], orc⟩, rcTouch rc i) := by
  simp only [getCacheBuf, h]

theorem getCacheBuf_runs (pol : Policy) (rc : RdCache) (as addr : Nat) (pages : Nat → PageInfo)
    (orc : List Ext) (hwf : rc.WF) :
    Runs (getCacheBuf cfg pol rc as addr pages orc).1.evs (rcRes cfg rc.slots ++ L)
      (rcRes cfg (getCacheBuf cfg pol rc as addr pages orc).2.slots ++ L)
    ∧ (getCacheBuf cfg pol rc as addr pages orc).2.WF := by
  unfold getCacheBuf
  dsimp only
  cases hf : rcFind rc.slots (pageOf cfg as addr) with
  | some i => exact ⟨Runs.nil _, hwf.touch (rcFind_lt hf)⟩
  | none =>
    dsimp only
    have hi := hwf.lru_lt
    generalize rc.order.getLast?.getD 0 = i at hi ⊢
    have hev : Runs (slotPut cfg (rc.slots.getD i none)) (rcRes cfg rc.slots ++ L)
        (rcRes cfg (rc.slots.set i none) ++ L) := by
      have hself : rc.slots.set i (rc.slots.getD i none) = rc.slots := by
        rw [List.getD_eq_getElem?_getD, List.getElem?_eq_getElem hi, Option.getD_some, List.set_getElem_self]
      have hs := rcRes_set cfg rc.slots i (rc.slots.getD i none) hi
      rw [hself] at hs
      refine (slotPut_runs cfg _ _).perm_left ?_
      rw [← List.append_assoc]
      exact (hs.append_right L).symm
    have hg := addrxlatGetPage_runs cfg (rcRes cfg (rc.slots.set i none) ++ L) pol as addr pages orc
    generalize addrxlatGetPage cfg pol as addr pages orc = out at hg ⊢
    rcases out with ⟨pol' | s | _, e, o⟩
    · have hp : (lentRes cfg as addr ++ (rcRes cfg (rc.slots.set i none) ++ L)).Perm
          (rcRes cfg (rc.slots.set i (some (pageOf cfg as addr))) ++ L) := by
        rw [← List.append_assoc, ← lentRes_pageOf]
        exact ((rcRes_set cfg rc.slots i (some (pageOf cfg as addr)) hi).append_right L).symm
      exact ⟨(Runs.append hev hg).perm_right hp, (hwf.set _ _).touch (by simpa using hi)⟩
    · exact ⟨Runs.append hev hg, hwf.set _ _⟩
    · exact ⟨Runs.nil _, hwf⟩

theorem rcRes_map_none (slots : List (Option Page)) :
    rcRes cfg (slots.map (fun _ => none)) = [] := by
  induction slots with
  | nil => rfl
  | cons s t ih => simpa [rcRes] using ih

theorem ctxAddCb_runs (cbSize : Nat) (x : AxCtx) (id : Nat) (orc : List Ext) :
    Runs (ctxAddCb cbSize x id orc).1.evs (cbRes cbSize x.cbs ++ L) (cbRes cbSize (ctxAddCb cbSize x id orc).2.cbs ++ L)
    ∧ (ctxAddCb cbSize x id orc).2.rc = x.rc := by
  unfold ctxAddCb
  split
  · exact ⟨by simpa [cbRes] using Runs.malloc .cb cbSize (cbRes cbSize x.cbs ++ L), rfl⟩
  · exact ⟨Runs.skip rfl _, rfl⟩
  · exact ⟨Runs.nil _, rfl⟩

theorem ctxDelCb_mem {cfg : Cfg} {cbSize : Nat} {x : AxCtx} {id : Nat} (h : id ∈ x.cbs) :
    ctxDelCb cfg cbSize x id =
      (cleanupCache cfg x.rc.slots ++ [.free .cb cbSize],
       ⟨{ x.rc with slots := x.rc.slots.map (fun _ => none) }, x.cbs.erase id⟩) := by
  simp only [ctxDelCb, h, if_true]

theorem ctxDelCb_not_mem {cfg : Cfg} {cbSize : Nat} {x : AxCtx} {id : Nat} (h : id ∉ x.cbs) :
    ctxDelCb cfg cbSize x id = ([], x) := by
  simp only [ctxDelCb, h, if_false]

theorem ctxDelCb_runs (cbSize : Nat) (x : AxCtx) (id : Nat) (h : id ∈ x.cbs) :
    Runs (ctxDelCb cfg cbSize x id).1 (rcRes cfg x.rc.slots ++ cbRes cbSize x.cbs ++ L)
      (cbRes cbSize (ctxDelCb cfg cbSize x id).2.cbs ++ L) := by
  rw [ctxDelCb_mem h]
  have h1 := cleanupCache_runs cfg (cbRes cbSize x.cbs ++ L) x.rc.slots
  rw [← List.append_assoc] at h1
  -- one record goes, whichever: they are all the same size
  exact Runs.append h1 (Runs.free (((List.perm_cons_erase h).map _).append_right L))

theorem ctxDelCb_slots_empty {cbSize : Nat} {x : AxCtx} {id : Nat} (h : id ∈ x.cbs) :
    rcRes cfg (ctxDelCb cfg cbSize x id).2.rc.slots = [] := by
  rw [ctxDelCb_mem h]; exact rcRes_map_none cfg _

theorem ctxDelCb_wf_iff (cbSize : Nat) (x : AxCtx) (id : Nat) :
    (ctxDelCb cfg cbSize x id).2.rc.WF ↔ x.rc.WF := by
  by_cases h : id ∈ x.cbs
  · rw [ctxDelCb_mem h]; simp [RdCache.WF]
  · rw [ctxDelCb_not_mem h]

theorem ctxDelCb_step (cbSize : Nat) (x : AxCtx) (id : Nat) (hwf : x.rc.WF) :
    Runs (ctxDelCb cfg cbSize x id).1 (rcRes cfg x.rc.slots ++ cbRes cbSize x.cbs ++ L)
      (rcRes cfg (ctxDelCb cfg cbSize x id).2.rc.slots ++ cbRes cbSize (ctxDelCb cfg cbSize x id).2.cbs ++ L)
    ∧ (ctxDelCb cfg cbSize x id).2.rc.WF := by
  refine ⟨?_, (ctxDelCb_wf_iff cfg cbSize x id).mpr hwf⟩
  by_cases h : id ∈ x.cbs
  · rw [ctxDelCb_slots_empty cfg h]; exact ctxDelCb_runs cfg L cbSize x id h
  · rw [ctxDelCb_not_mem h]; exact Runs.nil _

end Kdf.Lemmas.Res
