import Kdf.Lemmas.Pgt
/-! C02: `remain` under `next_step`, launch/step vs. walk.  Here and in the files above `extra`
is the constant `Model.PgtArch.extra`, not a variable. -/
namespace Kdf.Lemmas.Pgt
open Kdf.Model.Pgt Kdf.Spec.ArchWalk Kdf.Model.PgtArch Kdf.Lemmas.PgtWalk

theorem getD_set_succ (l : List Nat) (v i : Nat) : (l.set 0 v).getD (i+1) 0 = l.getD (i+1) 0 := by
  cases l with
  | nil => simp
  | cons a as => simp

/-- `next_step` keeps `remain` positive and does not increase it -/
def RemOK (s s2 : Step) : Prop := 1 ≤ s.remain → 1 ≤ s2.remain ∧ s2.remain ≤ s.remain

theorem remOK_refl (s s' : Step) (h : s'.remain = s.remain) : RemOK s s' := by
  intro h1; rw [h]; exact ⟨h1, Nat.le_refl _⟩

theorem remOK_huge (pf : PagingForm) (s s' : Step) (h : s'.remain = s.remain) :
    RemOK s (hugePage pf s') := by
  have := hugePage_go_remain pf s' s'.remain s'.remain 0
  exact fun h1 => ⟨this.2 (h ▸ h1), h ▸ this.1⟩

theorem leafOrTable_remain (s : Step) (t a : Nat) : (leafOrTable s t a).remain = s.remain := by
  unfold leafOrTable; split <;> rfl

theorem remOK_lot (s s' : Step) (t a : Nat) (h : s'.remain = s.remain) :
    RemOK s (leafOrTable s' t a) := by
  apply remOK_refl; rw [leafOrTable_remain, h]

macro "remain_tac" h:ident : tactic => `(tactic|
  (simp only [bind, Except.bind, pure, Except.pure, throw, throwThe, MonadExceptOf.throw] at $h:ident
   repeat' split at $h:ident
   all_goals (cases $h:ident <;>
     first | exact remOK_huge _ _ _ rfl | exact remOK_lot _ _ _ _ rfl | exact remOK_refl _ _ rfl)))

/-- an `.ok` result satisfies `RemOK` -/
def Keeps (s : Step) (res : Except XStatus Step) : Prop := ∀ s2, res = .ok s2 → RemOK s s2

theorem keeps_error (s : Step) (e : XStatus) : Keeps s (.error e) := fun _ h => nomatch h

theorem keeps_ok {s s2 : Step} (h : RemOK s s2) : Keeps s (.ok s2) := fun _ e => by
  cases e; exact h

theorem keeps_same {s s2 : Step} (h : s2.remain = s.remain) : Keeps s (.ok s2) :=
  keeps_ok (remOK_refl s s2 h)

theorem keeps_same_ite {s a b : Step} {c : Prop} [Decidable c] (ha : a.remain = s.remain)
    (hb : b.remain = s.remain) : Keeps s (.ok (if c then a else b)) :=
  keeps_same (by split; exact ha; exact hb)

theorem keeps_huge {s s' : Step} (pf : PagingForm) (h : s'.remain = s.remain) :
    Keeps s (.ok (hugePage pf s')) :=
  keeps_ok (remOK_huge pf s s' h)

theorem keeps_leafOrTable {s s' : Step} (t a : Nat) (h : s'.remain = s.remain) :
    Keeps s (.ok (leafOrTable s' t a)) :=
  keeps_ok (remOK_lot s s' t a h)

theorem keeps_ite {s : Step} {c : Prop} [Decidable c] {a b : Except XStatus Step}
    (ha : c → Keeps s a) (hb : ¬ c → Keeps s b) : Keeps s (if c then a else b) := by
  split
  · exact ha ‹_›
  · exact hb ‹_›

/-- `if c then throw e` in front of the rest `jp` of a `do` block -/
theorem keeps_guard {s : Step} {c : Prop} [Decidable c] {e : XStatus}
    {jp : PUnit → Except XStatus Step} (h : Keeps s (jp ⟨⟩)) :
    Keeps s (if c then throw e >>= jp else jp ⟨⟩) :=
  keeps_ite (fun _ => keeps_error s e) (fun _ => h)

theorem keeps_readPte {s : Step} {mem : Mem} {sz pm : Nat} {body : Step × Nat → Except XStatus Step}
    (h : ∀ raw pte, Keeps s (body ({ s with raw := raw }, pte))) :
    Keeps s (readPte mem sz pm s >>= body) := by
  unfold readPte
  cases mem s.base.as s.base.addr sz with
  | error e => exact keeps_error s e
  | ok v => exact h v _

theorem keeps_aarch64_tail {t : Nat} {pf : PagingForm} {s s' : Step} {mx pte addr : Nat}
    (hs : s'.remain = s.remain) :
    Keeps s (Kdf.Model.PgtAarch64.tail t pf mx s' pte addr) :=
  keeps_ite
    (fun _ => keeps_ite (fun _ => keeps_error s _) fun _ => keeps_huge pf hs)
    (fun _ => keeps_same_ite hs hs)

/-- the proof follows each C function -/
theorem nextStepPgt_remain (mem : Mem) (t pm : Nat) (pf : PagingForm) (s : Step) :
    Keeps s (nextStepPgt extra mem t pm pf s) := by
  obtain ⟨fmt, fields⟩ := pf
  cases fmt
  case none => exact keeps_same rfl
  case riscv32 => exact keeps_error s _
  case pfn32 | pfn64 => exact keeps_readPte fun _ _ => keeps_guard <| keeps_same_ite rfl rfl
  case ia32 | ia32Pae =>
    exact keeps_readPte fun _ _ => keeps_guard <|
      keeps_ite (fun _ => keeps_huge _ rfl) fun _ => keeps_leafOrTable _ _ rfl
  case x86_64 =>
    exact keeps_readPte fun _ _ => keeps_guard <|
      keeps_ite (fun _ => keeps_huge _ rfl) fun _ =>
      keeps_ite (fun _ => keeps_huge _ rfl) fun _ => keeps_leafOrTable _ _ rfl
  case riscv64 =>
    exact keeps_readPte fun _ _ => keeps_guard <|
      keeps_ite (fun _ => keeps_huge _ rfl) fun _ =>
      keeps_ite (fun _ => keeps_error s _) fun _ => keeps_leafOrTable _ _ rfl
  case aarch64 | aarch64Lpa | aarch64Lpa2 =>
    exact keeps_readPte fun _ _ => keeps_guard <| keeps_aarch64_tail rfl
  case arm =>
    -- `add_overlap` only touches `idx[]`
    exact keeps_readPte fun _ _ => keeps_guard <|
      keeps_ite
        (fun _ => keeps_ite
          (fun _ => keeps_ite (fun _ => keeps_huge _ rfl) fun _ => keeps_huge _ rfl)
          fun _ => keeps_same rfl)
        fun _ => keeps_ite (fun _ => keeps_same rfl) fun _ => keeps_same rfl
  case s390x =>
    exact keeps_readPte fun _ _ => keeps_guard <| keeps_guard <|
      keeps_ite (fun _ => keeps_huge _ rfl) fun _ =>
      keeps_ite (fun _ => keeps_huge _ rfl) fun _ =>
      keeps_guard <| keeps_same_ite rfl rfl
  case ppc64LinuxRpn30 =>
    -- `huge_pd_linux` sets `remain = 2`, and is only entered with `remain > 1`
    exact keeps_readPte fun _ _ => keeps_guard <|
      keeps_ite
        (fun (hgt : s.remain > 1) =>
          keeps_ite (fun _ => keeps_huge _ rfl) fun _ =>
          keeps_ite
            (fun _ => keeps_ite (fun _ => keeps_error s _) fun _ =>
              keeps_ok fun _ => ⟨Nat.le_succ 1, hgt⟩)
            fun _ => keeps_same rfl)
        fun _ => keeps_same rfl

theorem nextStep_remain (mem : Mem) (m : Meth) (s : Step) : Keeps s (nextStep extra mem m s) := by
  cases m
  case nometh => exact keeps_error s _
  case custom => exact keeps_same rfl
  case linear => exact keeps_same rfl
  case lookup => exact keeps_same rfl
  case pgt => exact nextStepPgt_remain _ _ _ _ _
  case memarr =>
    refine keeps_ite (fun _ => ?_) fun _ => keeps_error s _
    split
    · exact keeps_error s _
    · exact keeps_same rfl

/-! ## launch + single steps = walk -/

theorem launchSteps_go_done (mem : Mem) (m : Meth) (fuel : Nat) (s : Step) (acc : List Step)
    (h : s.remain = 0) : (launchSteps.go extra mem m fuel s acc).2 = .ok s := by
  cases fuel with
  | zero => rfl
  | succ f => simp [launchSteps.go, h]

theorem launchSteps_go_eq_walkLoop (mem : Mem) (m : Meth) (fuel : Nat) (s : Step) (acc : List Step)
    (h1 : 1 ≤ s.remain) (h2 : s.remain ≤ fuel) :
    (launchSteps.go extra mem m fuel s acc).2 = walkLoop extra mem m fuel s := by
  induction fuel generalizing s acc with
  | zero => omega
  | succ fuel ih =>
    have hne : s.remain ≠ 0 := by omega
    unfold launchSteps.go walkLoop stepOnce
    simp only [hne, if_false]
    by_cases hr : s.remain - 1 = 0
    · simp only [hr, if_true]
      rw [launchSteps_go_done _ _ _ _ _ rfl]
    · simp only [hr, if_false]
      cases hn : nextStep extra mem m
          { s with remain := s.remain - 1,
                   base := { s.base with addr := (s.base.addr + idxAt s (s.remain - 1) * s.elemsz) % W } } with
      | error e => rfl
      | ok s2 =>
        obtain ⟨h3, h4⟩ := nextStep_remain _ _ _ _ hn (by show 1 ≤ s.remain - 1; omega)
        exact ih s2 _ h3 (Nat.le_trans h4 (by show s.remain - 1 ≤ fuel; omega))

end Kdf.Lemmas.Pgt
