import Kdf.Model.Pgt
import Kdf.Model.PgtArch
import Kdf.Spec.ArchWalk
import Kdf.Lemmas.Pgt
import Kdf.Lemmas.PgtStep
import Kdf.Lemmas.PgtSim
import Kdf.Lemmas.PgtForm
/-!
# C02 — address translation equals the architecture's page-table walk

Property theorems only.  `walk` is the model of `addrxlat_walk` (tied to the C
code by the `walk` correspondence stream), `specXlat` the independent
architectural specification.  What the proofs use of the guards: the paging form is one the
architecture defines (`archForm`), the PTE mask is below `2^64`, and (ia32 only, for
PSE-36) memory values fit their size (`MemWF`).
-/
namespace Kdf.Props.C02
set_option linter.unusedVariables false
open Kdf.Model.Pgt Kdf.Spec.ArchWalk Kdf.Lemmas.Pgt Kdf.Model.PgtArch

/-- Page-table methods: same physical address, or the same error class. -/
theorem walk_eq_spec_pgt (mem : Mem) (hmem : MemWF mem) (t : Nat) (root : FullAddr) (pteMask : Nat)
    (pf : PagingForm) (va : Nat) (hform : archForm pf = true) (hva : va < W) (hroot : root.addr < W)
    (hmask : pteMask < W) :
    (walk extra mem (.pgt t root pteMask pf) va).map (·.base) =
      specXlat mem (.pgt t root pteMask pf) va := by
  obtain ⟨fmt, fields⟩ := pf
  cases fmt
  case x86_64 | ia32 | ia32Pae | riscv64 | pfn32 | pfn64 =>
    exact walk_pgt_form mem t root pteMask _ va (fun _ => hmem) hform hmask _ _ _ rfl
  all_goals exact absurd hform Bool.false_ne_true

/-- Linear, lookup-table and memory-array methods equal their definitions. -/
theorem walk_eq_spec_linear (mem : Mem) (t off va : Nat) (hva : va < W) (hoff : off < W) :
    (walk extra mem (.linear t off) va).map (·.base) = specXlat mem (.linear t off) va := by
  simp [walk, firstStep, walkLoop, specXlat, idxAt, Meth.targetAs, Except.map]

theorem walk_eq_spec_lookup (mem : Mem) (t endoff : Nat) (tbl : List (Nat × Nat)) (va : Nat) (hva : va < W)
    (htbl : ∀ e ∈ tbl, e.1 < W ∧ e.2 < W) :
    (walk extra mem (.lookup t endoff tbl) va).map (·.base) = specXlat mem (.lookup t endoff tbl) va := by
  simp only [walk, firstStep, specXlat]
  generalize List.find? _ tbl = r
  cases r with
  | none => rfl
  | some p =>
    obtain ⟨orig, dest⟩ := p
    simp [walkLoop, idxAt, Meth.targetAs, Except.map]

theorem walk_eq_spec_memarr (mem : Mem) (hmem : MemWF mem) (t : Nat) (base : FullAddr) (shift elemsz valsz va : Nat)
    (hva : va < W) (hbase : base.addr < W) (hshift : shift < 64) :
    (walk extra mem (.memarr t base shift elemsz valsz) va).map (·.base) =
      specXlat mem (.memarr t base shift elemsz valsz) va := by
  unfold walk firstStep specXlat
  simp only [walkLoop, nextStep, nextMemarr, idxAt, Meth.targetAs]
  by_cases hv : valsz = 4 ∨ valsz = 8
  · simp only [hv, if_true]
    simp only [show (2:Nat) ≠ 0 by decide, if_false, show (2:Nat) - 1 = 1 from rfl,
      show (1:Nat) ≠ 0 by decide, List.getD_cons_succ, List.getD_cons_zero]
    cases mem base.as ((base.addr + va / 2 ^ shift * elemsz) % W) valsz with
    | error e => rfl
    | ok v => simp [Except.map]
  · simp [hv, Except.map]

/-- Non-canonical input addresses are invalid (formats with a canonical-address rule). -/
theorem noncanonical_invalid (mem : Mem) (t : Nat) (root : FullAddr) (pteMask : Nat) (pf : PagingForm) (va : Nat)
    (hform : archForm pf = true) (hva : va < W) (hroot : root.as ≠ NOADDR)
    (decode : Nat → Nat → Desc) (canon : Canon) (sz : Nat) (hspec : formatSpec pf = some (decode, canon, sz))
    (hnc : canonical canon (spanBits pf.fieldsz pf.fieldsz.length) va = false) :
    walk extra mem (.pgt t root pteMask pf) va = .error .invalid :=
  walk_noncanonical mem t root pteMask pf va canon hroot
    (firstOK_of_form t root pteMask pf va hform decode canon sz hspec) hnc

/-- Performing the walk in one call or as launch plus single steps gives the
same outcome, for every method kind, every paging form and every memory. -/
theorem launch_steps_eq_walk (mem : Mem) (m : Meth) (va : Nat) :
    (launchSteps extra mem m va).2 = walk extra mem m va := by
  unfold launchSteps walk
  cases firstStep m va with
  | error e => rfl
  | ok s0 =>
    by_cases h0 : s0.remain = 0
    · simp only [h0, if_true]
      exact launchSteps_go_done _ _ _ _ _ h0
    · simp only [h0, if_false]
      exact launchSteps_go_eq_walkLoop _ _ _ _ _ (by omega) (by omega)

/-! ### Non-vacuity: a 4-level x86-64 walk through a 2 MiB page -/
def demoMem : Mem := fun _ a sz =>
  if sz ≠ 8 then .error .nodata
  else if a = 0x1000 + 8 * 0 then .ok 0x2003        -- PML4[0] -> 0x2000
  else if a = 0x2000 + 8 * 1 then .ok 0x3003        -- PDPT[1] -> 0x3000
  else if a = 0x3000 + 8 * 2 then .ok 0x40000083    -- PD[2]: 2 MiB page at 0x40000000
  else .ok 0

example : archForm ⟨.x86_64, [12, 9, 9, 9, 9]⟩ = true := by decide
example : (walk extra demoMem (.pgt 0 ⟨0x1000, 1⟩ 0 ⟨.x86_64, [12, 9, 9, 9, 9]⟩) (0x40000000 + 0x400000 + 0x12345)).map (·.base)
    = .ok ⟨0x40000000 + 0x12345, 0⟩ := by rfl

end Kdf.Props.C02
