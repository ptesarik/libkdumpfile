import Kdf.Model.PgtArch
import Kdf.Spec.ArchAarch64
import Kdf.Lemmas.PgtWalk
import Kdf.Lemmas.Pgt
/-!
# Lemmas for C02 / AArch64 (`Kdf/Props/C02Aarch64.lean`)

An architectural form is `[g, g-3, …, g-3, top]`, so the entry at field `r` maps
`g + (r-1)(g-3)` address bits, and `MAX_REGION_MASK*` admits a block exactly at the levels
where the architecture has one.
-/
open Kdf.Model.Pgt Kdf.Model.PgtAarch64 Kdf.Spec.ArchWalk Kdf.Spec.ArchAarch64 Kdf.Lemmas.PgtWalk
open Kdf.Lemmas.Pgt (and_not_mask)

namespace Kdf.Lemmas.Aarch64

/-- `MAX_REGION_MASK*` = `ADDR_MASK(regionBits l)` -/
def regionBits : Layout → Nat
  | .v8 => 30 | .lpa => 42 | .lpa2 => 39

/-- the address the library extracts from a descriptor -/
def libAddr : Layout → Nat → Nat
  | .v8, pte => pte &&& PA_MASK
  | .lpa, pte => bits pte 0 48 ||| (bits pte 12 4 * 2^48 % W)
  | .lpa2, pte => bits pte 0 50 ||| (bits pte 8 2 * 2^50 % W)

theorem div_mul_add_high (x h m k : Nat) (hm : m ≤ k) :
    (x + h * 2^k) / 2^m * 2^m = x / 2^m * 2^m + h * 2^k := by
  have e : 2^k = 2^(k - m) * 2^m := by rw [← Nat.pow_add]; congr 1; omega
  rw [e, ← Nat.mul_assoc, Nat.add_mul_div_right _ _ (Nat.two_pow_pos m), Nat.add_mul]

theorem andNot_or_high (pte m lo sh n : Nat) (hm : m ≤ lo) (hlo : lo + n ≤ 64) :
    (pte % 2^lo ||| pte / 2^sh % 2^n * 2^lo % W) &&& ((W - 1) ^^^ (2^m - 1))
      = pte % 2^lo / 2^m * 2^m + pte / 2^sh % 2^n * 2^lo := by
  have hb := mul_pow_lt (Nat.mod_lt (pte / 2^sh) (Nat.two_pow_pos n)) (show n + lo ≤ 64 by omega)
  have ha : pte % 2^lo < 2^lo := Nat.mod_lt _ (Nat.two_pow_pos lo)
  rw [Nat.mod_eq_of_lt hb, and_not_mask _ _ (Nat.or_lt_two_pow
      (Nat.lt_of_lt_of_le ha (Nat.pow_le_pow_right (by decide) (by omega))) hb) (by omega),
    or_eq_add' _ _ lo ha, div_mul_add_high _ _ _ _ hm]

theorem addr_eq (l : Layout) (pte m : Nat) (hm : m ≤ 48) :
    andNot (libAddr l pte) (2^m - 1) = descAddr l pte m := by
  unfold andNot
  cases l with
  | v8 =>
    simp only [libAddr, PA_MASK, PA_MAX_BITS, addrMask, descAddr, Nat.and_two_pow_sub_one_eq_mod]
    exact and_not_mask _ _ (show _ < 2^64 by omega) (by omega)
  | lpa =>
    simp only [libAddr, descAddr, bits, Nat.pow_zero, Nat.div_one]
    exact andNot_or_high pte m 48 12 4 hm (by decide)
  | lpa2 =>
    simp only [libAddr, descAddr, bits, Nat.pow_zero, Nat.div_one]
    exact andNot_or_high pte m 50 8 2 (by omega) (by decide)

theorem fmt_cases {fmt : PteFormat} {l : Layout} (h : layoutOf fmt = some l) :
    fmt = .aarch64 ∨ fmt = .aarch64Lpa ∨ fmt = .aarch64Lpa2 := by
  cases fmt <;> simp [layoutOf] at h ⊢

/-- the three handlers after `read_pte64`, uniformly -/
def handlerBody (l : Layout) (t : Nat) (pf : PagingForm) : Step × Nat → Except XStatus Step
  | (s, pte) =>
    if bits pte 0 1 = 0 then .error .notpresent
    else tail t pf (addrMask (regionBits l)) s pte (libAddr l pte)

theorem nextStepPgt_eq (l : Layout) (mem : Mem) (t pteMask : Nat) (pf : PagingForm) (s : Step)
    (hl : layoutOf pf.fmt = some l) :
    nextStepPgt Kdf.Model.PgtArch.extra mem t pteMask pf s =
      readPte mem 8 pteMask s >>= handlerBody l t pf := by
  rcases fmt_cases hl with hf | hf | hf <;> rw [hf] at hl <;> cases hl
  all_goals
    simp only [nextStepPgt, hf, Kdf.Model.PgtArch.extra, pgtAarch64, pgtAarch64Lpa, pgtAarch64Lpa2]
    cases readPte mem 8 pteMask s with
    | error e => rfl
    | ok x =>
      simp only [bind, Except.bind, handlerBody, regionBits, libAddr, MAX_REGION_MASK, MAX_REGION_MASK_LPA,
        MAX_REGION_MASK_LPA2]
      split <;> rfl

theorem pageMask_eq (pf : PagingForm) (h : pf.fieldsz.getD 0 0 < 64) :
    pageMask pf = 2^(pf.fieldsz.getD 0 0) - 1 := by
  have hlt : 2^(pf.fieldsz.getD 0 0) < 2^64 := Nat.pow_lt_pow_right (by decide) h
  have hpos := Nat.two_pow_pos (pf.fieldsz.getD 0 0)
  unfold pageMask pageSize fieldAt
  rw [Nat.mod_eq_of_lt hlt]
  show (2^(pf.fieldsz.getD 0 0) + 2^64 - 1) % 2^64 = _
  omega

theorem blockAllowed_iff (l : Layout) (g r : Nat) (hg : granuleOk l g = true) (hr : 1 ≤ r) :
    blockAllowed l g (r + 1) = true ↔ g + r * (g - 3) ≤ regionBits l := by
  cases l <;> simp only [granuleOk, Bool.or_eq_true, decide_eq_true_eq] at hg
  · rcases hg with (rfl | rfl) | rfl <;> simp [blockAllowed, regionBits] <;> omega
  · subst hg; simp [blockAllowed, regionBits]; omega
  · rcases hg with rfl | rfl <;> simp [blockAllowed, regionBits] <;> omega

structure FormOK (l : Layout) (pf : PagingForm) : Prop where
  len : 2 ≤ pf.fieldsz.length
  granule : granuleOk l (pf.fieldsz.getD 0 0) = true
  field_lt : ∀ b ∈ pf.fieldsz, b < 64
  span_eq : ∀ r, r + 1 < pf.fieldsz.length →
    spanBits pf.fieldsz (r + 1) = pf.fieldsz.getD 0 0 + r * (pf.fieldsz.getD 0 0 - 3)
  span_le : ∀ r, r ≤ pf.fieldsz.length → spanBits pf.fieldsz r ≤ 52

theorem granule_cases {l : Layout} {g : Nat} (hg : granuleOk l g = true) : g = 12 ∨ g = 14 ∨ g = 16 := by
  cases l <;> simp only [granuleOk, Bool.or_eq_true, decide_eq_true_eq] at hg <;> omega

theorem formOK_of_arch (pf : PagingForm) (l : Layout) (hl : layoutOf pf.fmt = some l)
    (h : archFormAarch64 pf = true) : FormOK l pf := by
  obtain ⟨fmt, fs⟩ := pf
  simp only at hl
  unfold archFormAarch64 at h
  simp only [hl] at h
  cases fs with
  | nil => simp at h
  | cons g tl =>
    simp only [Bool.and_eq_true, decide_eq_true_eq, beq_iff_eq] at h
    obtain ⟨⟨⟨hg, hmin⟩, hmax⟩, heq⟩ := h
    have hle : ∀ r, r ≤ (g :: tl).length → spanBits (g :: tl) r ≤ 52 := by
      intro r hr
      have : maxVa l g ≤ 52 := by cases l <;> simp only [maxVa] <;> (try split) <;> omega
      exact Nat.le_trans (span_mono _ hr) (by omega)
    generalize spanBits (g :: tl) (g :: tl).length = vb at hmin heq
    have hg3 := granule_cases hg
    -- `formFields g vb` = `g :: replicate n (g-3) ++ top`, where `top` is empty or one narrower field
    have hlt : g < vb := by unfold minVa at hmin; split at hmin <;> omega
    have hn : 1 ≤ (vb - g) / (g - 3) ∨ (vb - g) % (g - 3) ≠ 0 := by
      rcases hg3 with rfl | rfl | rfl <;> omega
    have hrem : (vb - g) % (g - 3) < 64 := by rcases hg3 with rfl | rfl | rfl <;> omega
    rw [heq] at hle ⊢
    unfold formFields at hle ⊢
    generalize (vb - g) / (g - 3) = n at hn hle ⊢
    generalize (vb - g) % (g - 3) = top at hn hrem hle ⊢
    refine ⟨?_, hg, ?_, ?_, hle⟩
    · simp only [List.length_cons, List.length_append, List.length_replicate]
      split <;> simp only [List.length_nil, List.length_cons] <;> omega
    · intro b hb
      simp only [List.mem_cons, List.mem_append, List.mem_replicate] at hb
      rcases hb with rfl | ⟨_, rfl⟩ | hb
      · omega
      · omega
      · split at hb
        · simp at hb
        · simp only [List.mem_cons, List.not_mem_nil, or_false] at hb; rw [hb]; exact hrem
    · intro r hr
      apply span_cons_replicate
      simp only [List.length_cons, List.length_append, List.length_replicate] at hr
      split at hr <;> simp only [List.length_nil, List.length_cons] at hr <;> omega

/-- `remain == 1 || mask > MAX_REGION_MASK*` refuses a block exactly where the architecture has none -/
theorem FormOK.block_refused {l : Layout} {pf : PagingForm} (h : FormOK l pf) (r : Nat)
    (hr : r + 1 < pf.fieldsz.length) :
    (r + 1 = 1 ∨ 2^(spanBits pf.fieldsz (r + 1)) - 1 > addrMask (regionBits l)) ↔
      ¬ (r + 1 ≠ 1 ∧ blockAllowed l (pf.fieldsz.getD 0 0) (r + 1) = true) := by
  cases r with
  | zero => simp
  | succ r =>
    have hb := blockAllowed_iff l _ (r + 1) h.granule (by omega)
    have hk := Nat.two_pow_pos (regionBits l)
    rw [← h.span_eq (r + 1) hr, ← Nat.not_lt, ← Nat.pow_lt_pow_iff_right (a := 2) (by decide)] at hb
    rw [hb, addrMask]
    omega

theorem FormOK.block_span {l : Layout} {pf : PagingForm} (h : FormOK l pf) (r : Nat)
    (hr : r + 1 < pf.fieldsz.length)
    (hb : r + 1 ≠ 1 ∧ blockAllowed l (pf.fieldsz.getD 0 0) (r + 1) = true) :
    spanBits pf.fieldsz (r + 1) ≤ 48 := by
  obtain ⟨r, rfl⟩ : ∃ q, r = q + 1 := ⟨r - 1, by omega⟩
  have := (blockAllowed_iff l _ (r + 1) h.granule (by omega)).1 hb.2
  rw [← h.span_eq (r + 1) hr] at this
  cases l <;> simp only [regionBits] at this <;> omega

end Kdf.Lemmas.Aarch64
