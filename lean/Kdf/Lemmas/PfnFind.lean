import Kdf.Lemmas.Pfn
/-! `findRegion`: the binary-search invariant. -/
namespace Kdf.Lemmas.Pfn
open Kdf.Model.Pfn

/-- what `findRegion rs p` must return -/
def FindOK (rs : List Region) (p : Nat) : Option Region → Prop
  | some r => r ∈ rs ∧ p < r.pfn + r.cnt ∧ ∀ q ∈ rs, p < q.pfn + q.cnt → r.pfn ≤ q.pfn
  | none => ∀ q ∈ rs, q.pfn + q.cnt ≤ p

theorem sorted_get {rs : List Region} (h : RegionsSorted rs) (i j : Nat) (hi : i < rs.length)
    (hj : j < rs.length) (hij : i < j) : rs[i].pfn + rs[i].cnt ≤ rs[j].pfn :=
  (List.pairwise_iff_getElem.mp h.1) i j hi hj hij

theorem sorted_first {rs : List Region} (h : RegionsSorted rs) {i : Nat} (hi : i < rs.length) {p : Nat}
    (hlo : ∀ k (hk : k < rs.length), k < i → rs[k].pfn + rs[k].cnt ≤ p) :
    ∀ q ∈ rs, p < q.pfn + q.cnt → rs[i].pfn ≤ q.pfn := by
  intro q hq hpq
  obtain ⟨k, hk, rfl⟩ := List.getElem_of_mem hq
  by_cases hki : k < i
  · have := hlo k hk hki; omega
  · by_cases hke : k = i
    · subst hke; exact Nat.le_refl _
    · have := sorted_get h i k hi hk (by omega); omega

theorem fgo_spec (rs : List Region) (h : RegionsSorted rs) (p : Nat) :
    ∀ fuel left right, left ≤ right → right ≤ rs.length → right - left < fuel →
      (∀ i (hi : i < rs.length), i < left → rs[i].pfn + rs[i].cnt ≤ p) →
      (∀ i (hi : i < rs.length), right ≤ i → p < rs[i].pfn) →
      FindOK rs p (findRegion.go rs p fuel left right) := by
  intro fuel
  induction fuel with
  | zero => intro l r _ _ hf; omega
  | succ fuel ih =>
    intro left right hlr hrl hf hlo hhi
    rw [findRegion.go]
    by_cases heq : left = right
    · subst heq
      rw [if_pos rfl]
      by_cases hlt : left < rs.length
      · rw [List.getElem?_eq_getElem hlt]
        have := hhi left hlt (Nat.le_refl _)
        exact ⟨List.getElem_mem hlt, by omega, sorted_first h hlt hlo⟩
      · rw [List.getElem?_eq_none (by omega)]
        intro q hq
        obtain ⟨k, hk, rfl⟩ := List.getElem_of_mem hq
        exact hlo k hk (by omega)
    · rw [if_neg heq]
      have hmid : (left + right) / 2 < rs.length := by omega
      dsimp only
      rw [List.getElem?_eq_getElem hmid]
      generalize hm : (left + right) / 2 = mid at *
      dsimp only
      by_cases hp : p < rs[mid].pfn
      · rw [if_pos hp]
        apply ih left mid (by omega) (by omega) (by omega) hlo
        intro i hi hmi
        by_cases hie : i = mid
        · subst hie; exact hp
        · have := sorted_get h mid i hmid hi (by omega); omega
      · rw [if_neg hp]
        by_cases hp2 : p ≥ rs[mid].pfn + rs[mid].cnt
        · rw [if_pos hp2]
          apply ih (mid+1) right (by omega) hrl (by omega) _ hhi
          intro i hi hmi
          by_cases hie : i = mid
          · subst hie; omega
          · have := sorted_get h i mid hi hmid (by omega); omega
        · rw [if_neg hp2]
          refine ⟨List.getElem_mem hmid, by omega, sorted_first h hmid fun k hk hkm => ?_⟩
          have := sorted_get h k mid hk hmid hkm; omega

theorem findRegion_ok (rs : List Region) (h : RegionsSorted rs) (p : Nat) : FindOK rs p (findRegion rs p) := by
  unfold findRegion
  apply fgo_spec rs h p _ _ _ (Nat.zero_le _) (Nat.le_refl _) (by omega)
  · intro i hi h0; omega
  · intro i hi h0; omega

theorem findRegion_some {rs : List Region} (h : RegionsSorted rs) {p : Nat} {r : Region}
    (hr : findRegion rs p = some r) :
    r ∈ rs ∧ p < r.pfn + r.cnt ∧ ∀ q ∈ rs, p < q.pfn + q.cnt → r.pfn ≤ q.pfn := by
  have := findRegion_ok rs h p; rw [hr] at this; exact this

theorem findRegion_none {rs : List Region} (h : RegionsSorted rs) {p : Nat}
    (hr : findRegion rs p = none) : ∀ q ∈ rs, q.pfn + q.cnt ≤ p := by
  have := findRegion_ok rs h p; rw [hr] at this; exact this

end Kdf.Lemmas.Pfn
