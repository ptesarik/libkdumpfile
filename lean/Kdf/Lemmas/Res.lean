import Kdf.Model.Res
/-! Ledger calculus for C15: `Runs evs L L'` — the trace `evs` can be run from
`L` (nothing is given back that is not held) and leaves `L'`, up to order. -/
namespace Kdf.Lemmas.Res
open Kdf.Model.Res

def Runs (evs : List Ev) (L L' : List Res) : Prop :=
  ∃ M, runEvs evs L = some M ∧ M.Perm L'

/-- What an operation entered holding `H` holds when it returns.  `stuck` (the oracle
does not fit the calls) comes with an empty trace, so `H` is still held. -/
def heldAfter {α : Type} (H : List Res) (g : α → List Res) : R α → List Res
  | .ok a => g a
  | .err _ => []
  | .stuck => H

inductive Act
  | take (r : Res)
  | give (r : Res)
  | skip

def act : Ev → Act
  | .acq c k => .take (.pin c k)
  | .malloc t s true => .take (.mem t s)
  | .put c k => .give (.pin c k)
  | .discard c k => .give (.pin c k)
  | .free t s => .give (.mem t s)
  | _ => .skip

def Act.apply (L : List Res) : Act → Option (List Res)
  | .take r => some (r :: L)
  | .give r => if r ∈ L then some (L.erase r) else none
  | .skip => some L

def Act.takes (r : Res) : Act → Nat
  | .take x => if r = x then 1 else 0
  | _ => 0

def Act.gives (r : Res) : Act → Nat
  | .give x => if r = x then 1 else 0
  | _ => 0

theorem applyEv_eq (L : List Res) (e : Ev) : applyEv L e = (act e).apply L := by
  cases e with
  | malloc t s b => cases b <;> rfl
  | _ => rfl

theorem takes_cons (r : Res) (e : Ev) (es : List Ev) : takes r (e :: es) = (act e).takes r + takes r es := by
  cases e with
  | acq c k => rfl
  | malloc t s b =>
    cases b with
    | true => rfl
    | false => exact (Nat.zero_add _).symm
  | _ => exact (Nat.zero_add _).symm

theorem gives_cons (r : Res) (e : Ev) (es : List Ev) : gives r (e :: es) = (act e).gives r + gives r es := by
  cases e with
  | put c k => rfl
  | discard c k => rfl
  | free t s => rfl
  | malloc t s b => cases b <;> exact (Nat.zero_add _).symm
  | _ => exact (Nat.zero_add _).symm

theorem runEvs_cons {e : Ev} {es : List Ev} {L M : List Res} :
    runEvs (e :: es) L = some M ↔ ∃ N, (act e).apply L = some N ∧ runEvs es N = some M := by
  rw [runEvs, applyEv_eq]; exact Option.bind_eq_some_iff

theorem runEvs_append (a b : List Ev) (L : List Res) :
    runEvs (a ++ b) L = (runEvs a L).bind (runEvs b) := by
  induction a generalizing L with
  | nil => rfl
  | cons e es ih =>
    simp only [List.cons_append, runEvs]
    cases applyEv L e with
    | none => rfl
    | some M => exact ih M

theorem erase_perm {r : Res} {L₁ L₂ : List Res} (h : L₁.Perm L₂) : (L₁.erase r).Perm (L₂.erase r) :=
  h.erase r

theorem Act.apply_perm {L₁ L₂ M₁ : List Res} (a : Act) (h : L₁.Perm L₂) (h1 : a.apply L₁ = some M₁) :
    ∃ M₂, a.apply L₂ = some M₂ ∧ M₁.Perm M₂ := by
  cases a with
  | take r => obtain rfl := Option.some.inj h1; exact ⟨_, rfl, h.cons r⟩
  | skip => obtain rfl := Option.some.inj h1; exact ⟨_, rfl, h⟩
  | give r =>
    simp only [Act.apply] at h1 ⊢
    split at h1
    · rename_i hm
      obtain rfl := Option.some.inj h1
      exact ⟨_, if_pos (h.mem_iff.mp hm), h.erase r⟩
    · cases h1

theorem runEvs_perm {L₁ L₂ M₁ : List Res} (evs : List Ev) (h : L₁.Perm L₂) (h1 : runEvs evs L₁ = some M₁) :
    ∃ M₂, runEvs evs L₂ = some M₂ ∧ M₁.Perm M₂ := by
  induction evs generalizing L₁ L₂ with
  | nil => obtain rfl := Option.some.inj h1; exact ⟨_, rfl, h⟩
  | cons e es ih =>
    obtain ⟨N₁, ha, h1⟩ := runEvs_cons.mp h1
    obtain ⟨N₂, hb, hp⟩ := (act e).apply_perm h ha
    obtain ⟨M₂, hc, hq⟩ := ih hp h1
    exact ⟨M₂, runEvs_cons.mpr ⟨N₂, hb, hc⟩, hq⟩

theorem Runs.nil (L : List Res) : Runs [] L L := ⟨L, rfl, List.Perm.refl _⟩

theorem Runs.perm_right {evs L L' L''} (h : Runs evs L L') (p : L'.Perm L'') : Runs evs L L'' := by
  obtain ⟨M, h1, h2⟩ := h
  exact ⟨M, h1, h2.trans p⟩

theorem Runs.perm_left {evs L₁ L₂ L'} (h : Runs evs L₁ L') (p : L₁.Perm L₂) : Runs evs L₂ L' := by
  obtain ⟨M, h1, h2⟩ := h
  obtain ⟨M₂, h3, h4⟩ := runEvs_perm evs p h1
  exact ⟨M₂, h3, h4.symm.trans h2⟩

theorem Runs.append {a b L M N} (h1 : Runs a L M) (h2 : Runs b M N) : Runs (a ++ b) L N := by
  obtain ⟨M', ha, hp⟩ := h1
  obtain ⟨N', hb, hq⟩ := h2.perm_left hp.symm
  exact ⟨N', by rw [runEvs_append, ha]; exact hb, hq⟩

theorem Runs.cons {e : Ev} {b L M N} (h1 : Runs [e] L M) (h2 : Runs b M N) : Runs (e :: b) L N :=
  Runs.append h1 h2

theorem Runs.single {e : Ev} {L M : List Res} (h : (act e).apply L = some M) : Runs [e] L M :=
  ⟨M, runEvs_cons.mpr ⟨M, h, rfl⟩, List.Perm.refl _⟩

theorem Runs.skip {e : Ev} (h : act e = .skip) (L : List Res) : Runs [e] L L :=
  Runs.single (by rw [h]; rfl)

theorem Runs.take {e : Ev} {r : Res} (h : act e = .take r) (L : List Res) : Runs [e] L (r :: L) :=
  Runs.single (by rw [h]; rfl)

theorem Runs.give {e : Ev} {r : Res} {L L' : List Res} (h : act e = .give r) (p : L.Perm (r :: L')) :
    Runs [e] L L' := by
  have hm : r ∈ L := p.mem_iff.mpr List.mem_cons_self
  refine (Runs.single (M := L.erase r) (by rw [h]; exact if_pos hm)).perm_right ?_
  exact List.erase_cons_head r L' ▸ p.erase r

theorem Runs.acq (c : CacheId) (k : Nat) (L : List Res) : Runs [.acq c k] L (.pin c k :: L) :=
  Runs.take rfl L

theorem Runs.malloc (t : MemTag) (s : Nat) (L : List Res) : Runs [.malloc t s true] L (.mem t s :: L) :=
  Runs.take rfl L

theorem Runs.put {c : CacheId} {k : Nat} {L L' : List Res} (h : L.Perm (.pin c k :: L')) : Runs [.put c k] L L' :=
  Runs.give rfl h

theorem Runs.discard {c : CacheId} {k : Nat} {L L' : List Res} (h : L.Perm (.pin c k :: L')) : Runs [.discard c k] L L' :=
  Runs.give rfl h

theorem Runs.free {t : MemTag} {s : Nat} {L L' : List Res} (h : L.Perm (.mem t s :: L')) : Runs [.free t s] L L' :=
  Runs.give rfl h

theorem Act.apply_frame {L M : List Res} (a : Act) (F : List Res) (h : a.apply L = some M) :
    a.apply (L ++ F) = some (M ++ F) := by
  cases a with
  | take r => obtain rfl := Option.some.inj h; rfl
  | skip => obtain rfl := Option.some.inj h; rfl
  | give r =>
    simp only [Act.apply] at h ⊢
    split at h
    · rename_i hm
      obtain rfl := Option.some.inj h
      rw [if_pos (List.mem_append_left F hm), List.erase_append_left F hm]
    · cases h

theorem runEvs_frame {L M : List Res} (evs : List Ev) (F : List Res) (h : runEvs evs L = some M) :
    runEvs evs (L ++ F) = some (M ++ F) := by
  induction evs generalizing L with
  | nil => obtain rfl := Option.some.inj h; rfl
  | cons e es ih =>
    obtain ⟨N, ha, h⟩ := runEvs_cons.mp h
    exact runEvs_cons.mpr ⟨N ++ F, (act e).apply_frame F ha, ih h⟩

theorem Runs.frame {evs L L'} (h : Runs evs L L') (F : List Res) : Runs evs (L ++ F) (L' ++ F) := by
  obtain ⟨M, h1, h2⟩ := h
  exact ⟨M ++ F, runEvs_frame evs F h1, h2.append_right F⟩

theorem Runs.frame_left {evs L L'} (h : Runs evs L L') (F : List Res) : Runs evs (F ++ L) (F ++ L') :=
  ((h.frame F).perm_left List.perm_append_comm).perm_right List.perm_append_comm

theorem count_cons_res (r x : Res) (L : List Res) : (x :: L).count r = L.count r + if r = x then 1 else 0 := by
  simp only [List.count_cons, beq_iff_eq, eq_comm (a := r)]

theorem Act.apply_count {L M : List Res} (a : Act) (r : Res) (h : a.apply L = some M) :
    M.count r + a.gives r = L.count r + a.takes r := by
  cases a with
  | take x => obtain rfl := Option.some.inj h; exact count_cons_res r x L
  | skip => obtain rfl := Option.some.inj h; rfl
  | give x =>
    simp only [Act.apply] at h
    split at h
    · rename_i hm
      obtain rfl := Option.some.inj h
      rw [(List.perm_cons_erase hm).count_eq r, count_cons_res]
      rfl
    · cases h

end Kdf.Lemmas.Res
