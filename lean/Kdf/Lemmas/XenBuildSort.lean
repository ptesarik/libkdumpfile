import Kdf.Lemmas.XenDefs
/-!
# C19 — generic facts about the insertion sort `sortBy`
-/
namespace Kdf.Lemmas.Xen
open Kdf.Model.Xen

section
variable {α : Type} (le : α → α → Bool)

theorem insertBy_perm (x : α) (l : List α) : (insertBy le x l).Perm (x :: l) := by
  induction l with
  | nil => exact List.Perm.refl _
  | cons y ys ih =>
    simp only [insertBy]
    split
    · exact List.Perm.refl _
    · exact (List.Perm.cons y ih).trans (List.Perm.swap x y ys)

theorem sortBy_perm (l : List α) : (sortBy le l).Perm l := by
  induction l with
  | nil => exact List.Perm.refl _
  | cons x xs ih =>
    simp only [sortBy]
    exact (insertBy_perm le x _).trans (List.Perm.cons x ih)

theorem mem_sortBy (l : List α) (x : α) : x ∈ sortBy le l ↔ x ∈ l := (sortBy_perm le l).mem_iff

/-! Both comparators of the C code compare one key. -/
variable {le} {key : α → Nat} (hle : ∀ a b, le a b = true ↔ key a ≤ key b)
include hle

theorem insertBy_sorted (x : α) (l : List α) (h : l.Pairwise (fun a b => key a ≤ key b)) :
    (insertBy le x l).Pairwise (fun a b => key a ≤ key b) := by
  induction l with
  | nil => exact List.pairwise_singleton _ _
  | cons y ys ih =>
    rw [List.pairwise_cons] at h
    simp only [insertBy]
    split
    · next hxy =>
      rw [hle] at hxy
      refine List.pairwise_cons.mpr ⟨fun z hz => ?_, List.pairwise_cons.mpr h⟩
      rcases List.mem_cons.mp hz with rfl | hz
      · exact hxy
      · exact Nat.le_trans hxy (h.1 z hz)
    · next hxy =>
      rw [hle] at hxy
      refine List.pairwise_cons.mpr ⟨fun z hz => ?_, ih h.2⟩
      rcases List.mem_cons.mp ((insertBy_perm le x ys).mem_iff.mp hz) with rfl | hz
      · exact Nat.le_of_lt (Nat.lt_of_not_le hxy)
      · exact h.1 z hz

theorem sortBy_sorted (l : List α) : (sortBy le l).Pairwise (fun a b => key a ≤ key b) := by
  induction l with
  | nil => exact List.Pairwise.nil
  | cons x xs ih => exact insertBy_sorted hle x _ ih

theorem sortBy_pairwise {R : α → α → Prop} (hR : ∀ a b, R a b → R b a) {l : List α} (h : l.Pairwise R) :
    (sortBy le l).Pairwise (fun a b => key a ≤ key b ∧ R a b) :=
  (sortBy_sorted hle l).and ((List.Perm.pairwise_iff (fun h => hR _ _ h) (sortBy_perm le l)).mpr h)

end

end Kdf.Lemmas.Xen
