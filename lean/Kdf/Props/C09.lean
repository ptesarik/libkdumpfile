import Kdf.Lemmas.Sys
/-!
# C09 — address-space conversion terminates and lands where the caller can use it

Property theorems about `Kdf.Model.Sys.op` (`addrxlat_op`) and `conv` (`addrxlat_fulladdr_conv`).

Termination: `op` is a total Lean function defined by structural recursion on
the nesting budget (`MAX_INFLIGHT` minus the number of translations in flight),
which is what `addrxlat_op` enforces; the inner loops recurse on the constant chain tables and the
page-table walk on `remain`.  What the theorems add: the limit never changes an answer other than
by turning it into NOTIMPL (`op_limit_conservative`), and a self-translating memory array does run
into the limit (`example`s below), i.e. the exact-match guard alone does not bound the recursion.
"Exactly once" (`op_calls_once`) holds by construction of the result type `OpRes`.
-/
namespace Kdf.Props.C09
open Kdf.Model.Pgt Kdf.Model.Sys Kdf.Lemmas.Sys Kdf.Lemmas.SysSound Kdf.Spec.Route

/-- the memory `walk` sees at nesting budget `fuel+1` while translating `a` along `ch` -/
def readMem (c : Cfg) (fuel : Nat) (infl : List (FullAddr × Chain)) (a : FullAddr) (ch : Chain) : Mem :=
  fun as addr size =>
    if capsHas c.readCaps as then c.pm as addr size
    else nestedRead c.pm size (op c fuel c.readCaps ((a, ch) :: infl) ⟨addr, as⟩)

/-- Inner loop of `do_op` = "the first contributing map of the stage decides". -/
theorem tryAlt_eq_spec (sys : Sys) (caps : Nat) (wk : WalkFn) (alt : List Nat) (a : FullAddr) :
    tryAlt sys caps wk alt a = stage sys caps wk alt a :=
  tryAlt_eq_stage sys caps wk a alt

/-- `do_op` = the declarative route. -/
theorem doOp_eq_spec (sys : Sys) (caps : Nat) (wk : WalkFn) (alts : List (List Nat)) (a : FullAddr) :
    doOp sys caps wk alts a = route sys caps wk alts a :=
  doOp_eq_route sys caps wk a alts

section
variable {c : Cfg} {caps : Nat} {a : FullAddr}

theorem op_early {r : OpRes} (hp : pre c caps a = .error r) (fuel : Nat) (infl : List (FullAddr × Chain)) :
    op c fuel caps infl a = r := by
  cases fuel <;> rw [op, hp]

theorem op_succ {sys : Sys} {ch : Chain} (hp : pre c caps a = .ok (sys, ch)) (fuel : Nat)
    (infl : List (FullAddr × Chain)) :
    op c (fuel+1) caps infl a =
      if infl.contains (a, ch) then .fail .nometh
      else route sys caps (walk noExtra (readMem c fuel infl a ch)) ch.alts a := by
  rw [op, hp]
  simp only [doOp_eq_route]
  rfl

/-- NOTIMPL: unknown address space, nesting limit.  NOMETH: no capabilities, no system, translation
already in flight, no way to translate. -/
theorem op_cases {fuel : Nat} {infl : List (FullAddr × Chain)} {r : OpRes} (h : op c fuel caps infl a = r) :
    (r = .call a ∧ capsHas caps a.as = true) ∨ r = .fail .notimpl ∨ r = .fail .nometh ∨
    ∃ n sys ch, fuel = n + 1 ∧ c.sys = some sys ∧
      (∃ alt ∈ ch.alts, ∃ mi ∈ alt, ∃ a', cand sys (walk noExtra (readMem c n infl a ch)) a' mi = some r) ∧
      ∀ fa, r = .call fa → capsHas caps fa.as = true := by
  subst h
  rcases pre_cases (rfl : pre c caps a = _) with ⟨hc, hp⟩ | hp | hp | ⟨sys, ch, hs, hp⟩
  · exact .inl ⟨op_early hp fuel infl, hc⟩
  · exact .inr (.inr (.inl (op_early hp fuel infl)))
  · exact .inr (.inl (op_early hp fuel infl))
  · cases fuel with
    | zero => exact .inr (.inl (by rw [op, hp]))
    | succ n =>
      rw [op_succ hp]
      split
      · exact .inr (.inr (.inl rfl))
      · generalize hr : route sys caps _ ch.alts a = r
        rcases route_cases hr with h0 | hr
        · exact .inr (.inr (.inl h0))
        · exact .inr (.inr (.inr ⟨n, sys, ch, rfl, hs, hr⟩))

end

/-- An address already in a usable space is handed to the callback unchanged,
whatever the system, the nesting state and the in-flight list. -/
theorem op_passthrough (c : Cfg) (fuel caps : Nat) (infl : List (FullAddr × Chain)) (a : FullAddr)
    (h : capsHas caps a.as = true) : op c fuel caps infl a = .call a :=
  op_early (by unfold pre; rw [if_pos h]) fuel infl

/-- Whenever the callback runs, its address lies in one of the address spaces
the caller declared usable (hence is a real address space, never NOADDR). -/
theorem op_target_in_caps (c : Cfg) (fuel caps : Nat) (infl : List (FullAddr × Chain)) (a fa : FullAddr)
    (h : op c fuel caps infl a = .call fa) : capsHas caps fa.as = true ∧ fa.as < 3 := by
  have key : capsHas caps fa.as = true := by
    rcases op_cases h with ⟨h1, hc⟩ | h1 | h1 | ⟨_, _, _, _, _, _, hcall⟩
    · cases h1; exact hc
    · cases h1
    · cases h1
    · exact hcall fa rfl
  exact ⟨key, capsHas_lt key⟩

/-- The callback is invoked at most once; it is invoked exactly when the result
is the callback's own status; a status produced by the library itself comes
with no invocation. -/
theorem op_calls_once (c : Cfg) (fuel caps : Nat) (infl : List (FullAddr × Chain)) (a : FullAddr) (cbst : XStatus) :
    let r := op c fuel caps infl a
    r.calls.length ≤ 1 ∧
    (r.calls.length = 1 ↔ ∃ fa, r = .call fa) ∧
    (∀ fa, r = .call fa → r.status cbst = some cbst ∧ r.calls = [fa]) ∧
    (∀ e, r = .fail e → r.status cbst = some e ∧ r.calls = []) := by
  intro r
  cases hr : r with
  | call fa => simp [OpRes.calls, OpRes.status]
  | fail e => simp [OpRes.calls, OpRes.status]
  | oob => simp [OpRes.calls]

theorem op_ne_fail_ok (c : Cfg) (hpm : MemSound c.pm) (fuel : Nat) :
    ∀ caps infl a, op c fuel caps infl a ≠ .fail .ok := by
  -- `op_cases` covers budget 0 and n+1 alike, so the split on the budget is made inside: a route
  -- fails only with what a walk reports, whose reads go through `op` one level down
  have step : ∀ fuel, (∀ n, fuel = n + 1 → ∀ caps infl a, op c n caps infl a ≠ .fail .ok) →
      ∀ caps infl a, op c fuel caps infl a ≠ .fail .ok := by
    intro fuel ih caps infl a h
    rcases op_cases h with ⟨h1, _⟩ | h1 | h1 | ⟨n, sys, ch, hn, _, ⟨_, _, mi, _, a', hc⟩, _⟩
    · cases h1
    · cases h1
    · cases h1
    · have hmem : MemSound (readMem c n infl a ch) := by
        intro as addr size
        unfold readMem
        split
        · exact hpm as addr size
        · exact nestedRead_notOkErr hpm size (ih n hn _ _ _)
      exact cand_ne_fail_ok (walk_notOkErr hmem) sys a' mi hc
  induction fuel with
  | zero => exact step 0 nofun
  | succ n ih => exact step (n+1) fun _ hn => by cases hn; exact ih

/-- The library never reports success on its own: status OK comes out of
`addrxlat_op` only as the status of the callback, which then ran exactly once. -/
theorem op_ok_only_by_callback (c : Cfg) (hpm : MemSound c.pm) (fuel caps : Nat)
    (infl : List (FullAddr × Chain)) (a : FullAddr) (cbst : XStatus)
    (h : (op c fuel caps infl a).status cbst = some .ok) :
    cbst = .ok ∧ ∃ fa, op c fuel caps infl a = .call fa ∧ (op c fuel caps infl a).calls = [fa] := by
  cases hr : op c fuel caps infl a with
  | call fa =>
    rw [hr] at h
    simp [OpRes.status] at h
    exact ⟨h, fa, rfl, rfl⟩
  | fail e =>
    rw [hr] at h
    simp [OpRes.status] at h
    subst h
    exact absurd hr (op_ne_fail_ok c hpm fuel caps infl a)
  | oob => rw [hr] at h; simp [OpRes.status] at h

/-- what `addrxlat_sys_new` + `addrxlat_sys_set_map` + `addrxlat_map_set` with valid
method indices build -/
def WF (sys : Sys) : Prop :=
  sys.maps.length = 5 ∧
  ∀ m, some m ∈ sys.maps → ∀ r ∈ m, r.meth = Kdf.Model.Map.NONE ∨ (0 ≤ r.meth ∧ r.meth.toNat < sys.meths.length)

theorem chain_idx_lt (ch : Chain) : ∀ alt ∈ ch.alts, ∀ mi ∈ alt, mi < 5 := by
  cases ch <;> decide

/-- For a well-formed system the model never reports an access outside the
method or map arrays — at any nesting depth, so the `oob → invalid` conversion
inside `nestedRead` is dead code. -/
theorem op_no_oob (c : Cfg) (hw : ∀ sys, c.sys = some sys → WF sys) (fuel caps : Nat)
    (infl : List (FullAddr × Chain)) (a : FullAddr) : op c fuel caps infl a ≠ .oob := by
  intro h
  rcases op_cases h with ⟨h1, _⟩ | h1 | h1 | ⟨n, sys, ch, _, hsys, ⟨alt, halt, mi, hmi, a', hc⟩, _⟩
  · cases h1
  · cases h1
  · cases h1
  · have hwf := hw sys hsys
    exact cand_ne_oob (hwf.1 ▸ chain_idx_lt ch alt halt mi hmi) hwf.2 _ a' hc

/-- The linear shortcut of `do_op` computes what walking the linear method computes. -/
theorem linear_shortcut_eq_walk (extra : Extra) (mem : Mem) (t off addr : Nat) :
    (walk extra mem (.linear t off) addr).map (·.base) = .ok ⟨(addr + off) % W, t⟩ := by
  simp [walk, firstStep, walkLoop, idxAt, Meth.targetAs, Except.map, Nat.add_comm]

/-- A conversion that is neither passed through nor refused up front, not a
repetition of a translation in flight and within the nesting limit, delivers
exactly the first usable address of the route selected by (source space,
capabilities): per stage the first map that has a method for the address and
whose method does not answer NOMETH/NODATA, methods reading their tables through
the same conversion with the read capabilities. -/
theorem op_eq_composition (c : Cfg) (fuel caps : Nat) (infl : List (FullAddr × Chain)) (a : FullAddr)
    (sys : Sys) (ch : Chain) (hp : pre c caps a = .ok (sys, ch)) (hg : infl.contains (a, ch) = false) :
    op c (fuel+1) caps infl a = route sys caps (walk noExtra (readMem c fuel infl a ch)) ch.alts a := by
  rw [op_succ hp, hg]
  rfl

/-- A successful conversion ends in the requested address space (and only a real
address space can be requested successfully).  `MemSound`: the page reader never
fails "with status OK". -/
theorem conv_single_target (c : Cfg) (hpm : MemSound c.pm) (t : Nat) (a fa : FullAddr)
    (h : conv c t a = some (.ok, fa)) : fa.as = t ∧ t < 3 := by
  unfold conv at h
  split at h
  · rename_i fa' hr
    injection h with h; injection h with _ h; subst h
    exact capsHas_capsOf (op_target_in_caps c _ _ _ _ _ hr).1
  · rename_i e hr
    injection h with h; injection h with h1 _
    subst h1
    exact absurd hr (op_ne_fail_ok c hpm _ _ _ _)
  · cases h

/-- A failed conversion leaves the caller's address untouched. -/
theorem conv_fail_unchanged (c : Cfg) (t : Nat) (a fa : FullAddr) (st : XStatus)
    (h : conv c t a = some (st, fa)) (hst : st ≠ .ok) : fa = a := by
  unfold conv at h
  split at h
  · injection h with h; injection h with h1 _; exact absurd h1.symm hst
  · injection h with h; injection h with _ h2; exact h2.symm
  · cases h

/-- invariant of the pair (nesting budget, in-flight list) -/
def Inv (fuel : Nat) (infl : List (FullAddr × Chain)) : Prop :=
  infl.Nodup ∧ infl.length + fuel = MAX_INFLIGHT

/-- The invariant holds when `addrxlat_op` is entered from outside, and the only
recursive call in `op` (made with budget `fuel` and list `(a, ch) :: infl` after
the guard `infl.contains (a, ch) = false`) preserves it: the translations in
flight are pairwise distinct and never more than `MAX_INFLIGHT`. -/
theorem inflight_distinct :
    Inv MAX_INFLIGHT [] ∧
    (∀ fuel infl a ch, Inv (fuel+1) infl → infl.contains (a, ch) = false → Inv fuel ((a, ch) :: infl)) ∧
    (∀ fuel infl, Inv fuel infl → infl.length ≤ MAX_INFLIGHT) := by
  refine ⟨⟨List.nodup_nil, rfl⟩, ?_, ?_⟩
  · intro fuel infl a ch ⟨hn, hl⟩ hc
    refine ⟨List.nodup_cons.mpr ⟨?_, hn⟩, by simp only [List.length_cons]; omega⟩
    intro hm
    have : infl.contains (a, ch) = true := List.contains_iff_mem.mpr hm
    rw [hc] at this; cases this
  · intro fuel infl ⟨_, hl⟩; omega

/-- the deeper level reads through a memory that is larger in the order `MemLe` -/
theorem op_step (c : Cfg) (n : Nat) :
    ∀ caps infl a, op c n caps infl a = .fail .notimpl ∨ op c n caps infl a = op c (n+1) caps infl a := by
  induction n with
  | zero =>
    intro caps infl a
    cases hp : pre c caps a with
    | error r => right; rw [op_early hp, op_early hp]
    | ok p => left; rw [op, hp]
  | succ n ih =>
    intro caps infl a
    cases hp : pre c caps a with
    | error r => right; rw [op_early hp, op_early hp]
    | ok p =>
      obtain ⟨sys, ch⟩ := p
      rw [op_succ hp, op_succ hp]
      split
      · right; rfl
      · refine route_le (walk_le fun as addr size => ?_) sys caps ch.alts a
        unfold readMem
        split
        · right; rfl
        · rcases ih c.readCaps ((a, ch) :: infl) ⟨addr, as⟩ with h | h
          · left; rw [h]; rfl
          · right; rw [h]

/-- Raising the nesting limit never changes an answer other than NOTIMPL: every
result obtained within budget `n` that is not NOTIMPL is the result for every
larger budget.  (So the limit only ever cuts a translation off; it cannot make
a conversion land somewhere else.) -/
theorem op_limit_conservative (c : Cfg) (n k caps : Nat) (infl : List (FullAddr × Chain)) (a : FullAddr)
    (h : op c n caps infl a ≠ .fail .notimpl) : op c (n+k) caps infl a = op c n caps infl a := by
  induction k with
  | zero => rfl
  | succ k ih =>
    rcases op_step c (n+k) caps infl a with h1 | h1
    · rw [ih] at h1; exact absurd h1 h
    · rw [← ih, h1]; rfl

/-! ## non-vacuity: concrete systems -/

def zeroMem : Mem := fun _ _ _ => .ok 0

/-- KV → KPHYS (+0x1000) through KV_PHYS, KPHYS → MACHPHYS (+0x100000) through KPHYS_MACHPHYS -/
def demoSys : Sys :=
  ⟨[none, some [⟨W - 1, 0⟩], none, none, some [⟨W - 1, 1⟩]],
   [.linear KPHYS 0x1000, .linear MACHPHYS 0x100000] ++ List.replicate 14 .nometh⟩
def demoCfg : Cfg := ⟨some demoSys, 1, zeroMem⟩

example : WF demoSys := by
  refine ⟨rfl, ?_⟩
  intro m hm r hr
  simp [demoSys] at hm
  rcases hm with rfl | rfl <;> simp at hr <;> subst hr <;> simp [demoSys]

/-- two-stage composition: the callback wants MACHPHYS only -/
example : opTop demoCfg 2 ⟨0x2000, KV⟩ = .call ⟨0x103000, MACHPHYS⟩ := by decide
/-- the same source with KPHYS usable stops after the first stage -/
example : opTop demoCfg 1 ⟨0x2000, KV⟩ = .call ⟨0x3000, KPHYS⟩ := by decide
example : MemSound zeroMem := by intro _ _ _; simp [zeroMem, NotOkErr]
example : conv demoCfg MACHPHYS ⟨0x2000, KV⟩ = some (.ok, ⟨0x103000, MACHPHYS⟩) := by decide
/-- hypotheses of `op_eq_composition` and `op_limit_conservative` are satisfiable -/
example : pre demoCfg 2 ⟨0x2000, KV⟩ = .ok (demoSys, .kv2phys) := by rfl
example : opTop demoCfg 2 ⟨0x2000, KV⟩ ≠ .fail .notimpl := by decide

/-- A memory array (shift 0, elemsz 3) whose base is a KVADDR,
installed for the whole KV → PHYS map, with only KPHYSADDR readable.  Every
level asks for a different address (4096, 16384, 53248, …), so the exact-match
guard never fires; the translation ends at the nesting limit. -/
def selfSys : Sys :=
  ⟨[none, some [⟨W - 1, 0⟩], none, none, none],
   [.memarr KPHYS ⟨4096, KV⟩ 0 3 8] ++ List.replicate 15 .nometh⟩
def selfCfg : Cfg := ⟨some selfSys, 1, zeroMem⟩

example : opTop selfCfg 1 ⟨4096, KV⟩ = .fail .notimpl := by decide
/-- … and it is the limit, not the guard, that stops it: a smaller budget gives the same NOTIMPL -/
example : op selfCfg 3 1 [] ⟨4096, KV⟩ = .fail .notimpl := by decide

/-- A page table whose root is a KVADDR that only the table itself maps: the second
request repeats the first one exactly, the guard answers NOMETH at depth 2. -/
def loopSys : Sys :=
  ⟨[none, some [⟨W - 1, 0⟩], none, none, none],
   [.pgt KPHYS ⟨0, KV⟩ 0 ⟨.pfn64, [12, 9]⟩] ++ List.replicate 15 .nometh⟩
def loopCfg : Cfg := ⟨some loopSys, 1, zeroMem⟩
example : opTop loopCfg 1 ⟨0, KV⟩ = .fail .nometh := by decide
example : op loopCfg 3 1 [] ⟨0, KV⟩ = .fail .nometh := by decide

end Kdf.Props.C09
