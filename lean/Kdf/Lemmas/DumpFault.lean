import Kdf.Model.Dump
import Kdf.Lemmas.DumpLookup
/-! LKCD descriptor search (C01) with a descriptor read that fails at one file offset: the failure costs nothing but the
failed call.  The undisturbed search is the case of a failing offset below the page stream. -/
namespace Kdf.Lemmas.DumpFault
open Kdf.Model.Pfn Kdf.Model.Dump Kdf.Lemmas.Pfn Kdf.Lemmas.DumpLookup

theorem lkSearchF_no_fault (readDesc : Nat → Option LkcdDesc) (shift : Nat) (key : Nat → Nat) (p bad : Nat) :
    ∀ fuel st, (lkSearchF readDesc shift key p bad fuel st).2 ≠ none →
      lkSearchF readDesc shift key p bad fuel st =
        ((lkSearch readDesc shift key p fuel st).1, some (lkSearch readDesc shift key p fuel st).2) := by
  intro fuel
  induction fuel with
  | zero => intro st _; rfl
  | succ fuel ih =>
    intro st h
    rw [lkSearchF] at h ⊢
    rw [lkSearch]
    dsimp only at h ⊢
    by_cases hb : st.lastOffset = bad
    · rw [if_pos hb] at h; exact absurd rfl h
    rw [if_neg hb] at h ⊢
    cases hr : readDesc st.lastOffset with
    | none => rfl
    | some dp =>
      rw [hr] at h
      dsimp only at h ⊢
      by_cases hfl : dp.flags &&& 4 ≠ 0
      · rw [if_pos hfl, if_pos hfl]
      rw [if_neg hfl] at h ⊢
      rw [if_neg hfl]
      cases hl : lkLookup st.index (key (dp.address / 2^shift)) with
      | some o => rfl
      | none =>
        rw [hl] at h
        dsimp only at h ⊢
        by_cases hcp : dp.address / 2^shift = p
        · rw [if_pos hcp, if_pos hcp]
        rw [if_neg hcp] at h ⊢
        rw [if_neg hcp]
        exact ih _ h

/-- A call that does not report the failure did exactly what the undisturbed call does (the descriptor at `bad` was
not on its way). -/
theorem lkGetF_no_fault (readDesc : Nat → Option LkcdDesc) (shift : Nat) (key : Nat → Nat) (bad fuel : Nat)
    (st : LkcdState) (p : Nat)
    (h : (lkGetF readDesc shift key bad fuel st p).2 ≠ none) :
    lkGetF readDesc shift key bad fuel st p =
      ((lkGet readDesc shift key fuel st p).1, some (lkGet readDesc shift key fuel st p).2) := by
  unfold lkGetF at h ⊢
  unfold lkGet
  cases hl : lkLookup st.index (key p) with
  | some off =>
    rw [hl] at h
    dsimp only at h ⊢
    by_cases hb : off = bad
    · rw [if_pos hb] at h; exact absurd rfl h
    rw [if_neg hb]
    cases readDesc off <;> rfl
  | none =>
    rw [hl] at h
    dsimp only at h ⊢
    by_cases heq : st.lastOffset = st.endOffset
    · rw [if_pos heq, if_pos heq]
    rw [if_neg heq] at h ⊢
    rw [if_neg heq]
    exact lkSearchF_no_fault readDesc shift key p bad fuel st h

section
variable (ds : List LkcdDesc) (dataOff shift : Nat)
  (hnd : (ds.map (pfnOf shift)).Nodup) (hend : ∀ d ∈ ds, d.flags &&& 4 = 0)
include hnd hend

theorem lkSearchF_spec (p bad : Nat) :
    ∀ fuel k st, InvK ds dataOff shift k st → ds.length - k + 1 ≤ fuel →
      (∀ i (hi : i < ds.length), i < k → pfnOf shift ds[i] ≠ p) →
      Inv ds dataOff shift (lkSearchF (streamReader ds dataOff) shift id p bad fuel st).1 ∧
      (((lkSearchF (streamReader ds dataOff) shift id p bad fuel st).2 = none ∧ dataOff ≤ bad) ∨
       (lkSearchF (streamReader ds dataOff) shift id p bad fuel st).2 = some (expect ds dataOff shift p)) := by
  intro fuel
  induction fuel with
  | zero => intro k st _ hf; omega
  | succ fuel ih =>
    intro k st hK hf hne
    rw [lkSearchF]
    dsimp only
    by_cases hb : st.lastOffset = bad
    · rw [if_pos hb]
      exact ⟨⟨k, hK⟩, Or.inl ⟨rfl, by rw [← hb, hK.lastOffset_eq]; exact streamEnd_take_ge ds dataOff k hK.le⟩⟩
    rw [if_neg hb]
    by_cases hkl : k = ds.length
    · subst hkl
      rw [hK.read_end]
      exact ⟨⟨_, hK.mark_end⟩, Or.inr (congrArg some (expect_none ds dataOff shift p (fun i hi => hne i hi hi)).symm)⟩
    · have hlt : k < ds.length := Nat.lt_of_le_of_ne hK.le hkl
      rw [hK.read hlt]
      dsimp only
      rw [if_neg (by rw [hend _ (List.getElem_mem hlt)]; decide),
        show lkLookup st.index (id (ds[k].address / 2^shift)) = none from hK.fresh hnd hlt]
      dsimp only
      by_cases hcp : ds[k].address / 2^shift = p
      · rw [if_pos hcp]
        exact ⟨⟨k+1, hK.advance hlt _⟩, Or.inr (by rw [expect_found ds dataOff shift p hnd k hlt hcp, ← hK.lastOffset_eq])⟩
      · rw [if_neg hcp]
        apply ih (k+1) _ (hK.advance hlt _) (by omega)
        intro i hi hik
        by_cases he : i = k
        · subst he; exact hcp
        · exact hne i hi (by omega)

/-- A call during which the descriptor at `bad` cannot be read keeps the invariant of the scan state, and it either
reports the failure (`none`; then `bad` is not below the page stream) or gives the regular answer. -/
theorem lkGetF_spec (st : LkcdState) (hinv : Inv ds dataOff shift st) (bad p fuel : Nat) (hf : ds.length + 1 ≤ fuel) :
    Inv ds dataOff shift (lkGetF (streamReader ds dataOff) shift id bad fuel st p).1 ∧
    (((lkGetF (streamReader ds dataOff) shift id bad fuel st p).2 = none ∧ dataOff ≤ bad) ∨
     (lkGetF (streamReader ds dataOff) shift id bad fuel st p).2 = some (expect ds dataOff shift p)) := by
  obtain ⟨k, hK⟩ := (inv_iff ds dataOff shift st).mp hinv
  unfold lkGetF
  cases hl : lkLookup st.index (id p) with
  | some off =>
    rw [hK.index_eq] at hl
    obtain ⟨i, hi, hik, hp, rfl⟩ := lookup_some hK.le hl
    dsimp only
    by_cases hb : streamEnd (ds.take i) dataOff = bad
    · rw [if_pos hb]
      exact ⟨⟨k, hK⟩, Or.inl ⟨rfl, hb ▸ streamEnd_take_ge ds dataOff i (Nat.le_of_lt hi)⟩⟩
    rw [if_neg hb, reader_at ds dataOff i hi]
    exact ⟨⟨k, hK⟩, Or.inr (congrArg some (expect_found ds dataOff shift p hnd i hi hp).symm)⟩
  | none =>
    rw [hK.index_eq] at hl
    have hne := lookup_none hK.le hl
    dsimp only
    by_cases heq : st.lastOffset = st.endOffset
    · rw [if_pos heq]
      cases hK.at_end heq
      exact ⟨⟨_, hK⟩, Or.inr (congrArg some (expect_none ds dataOff shift p (fun i hi => hne i hi hi)).symm)⟩
    · rw [if_neg heq]
      exact lkSearchF_spec ds dataOff shift hnd hend p bad fuel k st hK (by omega) hne

theorem lkGet_spec (st : LkcdState) (hinv : Inv ds dataOff shift st) (p fuel : Nat) (hf : ds.length + 1 ≤ fuel) :
    Inv ds dataOff shift (lkGet (streamReader ds dataOff) shift id fuel st p).1 ∧
    (lkGet (streamReader ds dataOff) shift id fuel st p).2 = expect ds dataOff shift p := by
  -- offset 0 lies below the stream (`dataOff ≠ 0`), so a read failing there is never met
  obtain ⟨hi, hr⟩ := lkGetF_spec ds dataOff shift hnd hend st hinv 0 p fuel hf
  obtain ⟨k, hK⟩ := (inv_iff ds dataOff shift st).mp hinv
  have hsome := hr.resolve_left fun h => hK.dataOff_ne (Nat.le_zero.mp h.2)
  rw [lkGetF_no_fault _ shift id 0 fuel st p (by rw [hsome]; nofun)] at hi hsome
  exact ⟨hi, Option.some.inj hsome⟩

end

end Kdf.Lemmas.DumpFault
