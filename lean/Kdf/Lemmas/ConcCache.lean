import Kdf.Lemmas.CacheStep
/-!
Facts about the page-cache model (`Kdf.Model.Cache`, C06) that the concurrency proof (C05)
needs beyond the C06 frames: exact reference-count bookkeeping of every operation, which
entries can enter the in-flight list, success conditions of insert/put/discard.
-/
namespace Kdf.Lemmas.ConcCache
open Kdf.Model.Cache Kdf.Lemmas.Cache

theorem live_cases {c : Cache} {i : Nat} (h : i ∈ live c) : i ∈ cached c ∨ i ∈ c.F :=
  List.mem_append.1 h

theorem cached_not_F {c : Cache} (h : Inv c) {i : Nat} (hi : i ∈ cached c) : i ∉ c.F :=
  fun hF => not_cached_of_inflight ((inv_iff _).1 h) hF hi

theorem spare_not_live {c : Cache} (h : Inv c) {e : Nat} (he : e ∈ c.U ∨ e ∈ c.GB ∨ e ∈ c.GP) :
    e ∉ live c := by
  intro hl
  have h1 := List.nodup_iff_count.1 (h.part.nodup_iff.2 List.nodup_range) e
  simp only [ring, List.count_append] at h1
  have h2 : 0 < c.U.count e + c.GB.count e + c.GP.count e := by
    rcases he with he | he | he
    · have := List.count_pos_iff.2 he; omega
    · have := List.count_pos_iff.2 he; omega
    · have := List.count_pos_iff.2 he; omega
  rcases live_cases hl with hc | hF
  · rcases List.mem_append.1 hc with hB | hP
    · have := List.count_pos_iff.2 hB; omega
    · have := List.count_pos_iff.2 hP; omega
  · have := List.count_pos_iff.2 hF; omega

theorem live_buffer_inj {c : Cache} (h : Inv c) {i j d : Nat} (hi : i ∈ live c)
    (hj : j ∈ live c) (hdi : c.dataOf i = some d) (hdj : c.dataOf j = some d) : i = j := by
  have hS := (inv_iff _).1 h
  apply Decidable.byContradiction
  intro hne
  exact inv_unique_buffer hS (live_lt hS hi) (live_lt hS hj) hne hdi hdj

/-- entry table keeps its length, reference counts unchanged -/
def Quiet (c c' : Cache) : Prop := c'.ents.length = c.ents.length ∧ ∀ i, c'.refcnt i = c.refcnt i

theorem Quiet.refl (c : Cache) : Quiet c c := ⟨rfl, fun _ => rfl⟩

theorem Quiet.ents {a b c : Cache} (h : Quiet a b) (he : c.ents = b.ents) : Quiet a c :=
  ⟨by rw [he]; exact h.1, fun i => by unfold Cache.refcnt Cache.ent; rw [he]; exact h.2 i⟩

theorem Quiet.modEnt {a b : Cache} (h : Quiet a b) (e : Nat) (f : Entry → Entry)
    (hf : ∀ x, (f x).refcnt = x.refcnt) : Quiet a (b.modEnt e f) :=
  ⟨(modEnt_len b e f).trans h.1, fun i => (refcnt_modEnt_keeps b e f hf i).trans (h.2 i)⟩

theorem evict_inflight {c c' : Cache} {bias z : Nat} (h : evictEntry c bias = .ok (c', z)) :
    c'.F = c.F ∧ c'.ents = c.ents := by
  obtain ⟨-, ⟨-, rfl⟩ | ⟨-, rfl⟩⟩ := evictEntry_spec h <;> exact ⟨rfl, rfl⟩

theorem reclaim_inflight {c c1 : Cache} {d : Option Nat} (h : reclaimData c = .ok (c1, d)) :
    c1.F = c.F ∧ Quiet c c1 := by
  unfold reclaimData at h
  split at h
  · split at h
    · cases h
    · obtain ⟨rfl, -⟩ := Prod.mk.inj (Except.ok.inj h)
      exact ⟨rfl, (Quiet.refl c).modEnt _ (fun e => { e with data := none }) (fun _ => rfl)⟩
  · cases hev : evictEntry c 0 with
    | error x => rw [hev] at h; cases h
    | ok r =>
      rw [hev] at h
      obtain ⟨rfl, -⟩ := Prod.mk.inj (Except.ok.inj h)
      obtain ⟨hF, he⟩ := evict_inflight hev
      exact ⟨hF, ((Quiet.refl c).ents he).modEnt r.2 (fun e => { e with data := none }) (fun _ => rfl)⟩

theorem ghostHit_inflight {c c2 : Cache} {e : Nat} {b : Bool} (h : ghostHit c e b = .ok c2) :
    c2.F = c.F ++ [e] ∧ Quiet c c2 := by
  unfold ghostHit at h
  cases hrd : reclaimData c with
  | error x => rw [hrd] at h; cases h
  | ok r =>
    rw [hrd] at h
    obtain ⟨hF, hq⟩ := reclaim_inflight hrd
    have hq2 := hq.modEnt e (fun x => { x with data := r.2, state := .precious }) (fun _ => rfl)
    cases b
    · obtain rfl := Except.ok.inj h
      exact ⟨congrArg (· ++ [e]) hF, hq2⟩
    · obtain rfl := Except.ok.inj h
      exact ⟨congrArg (· ++ [e]) hF, hq2⟩

theorem missedTail_inflight {c c1 c2 : Cache} {e k e' : Nat} (h : missedTail c1 e k = .ok (c2, e'))
    (hq : Quiet c c1) : e' = e ∧ c2.F = c1.F ++ [e] ∧ Quiet c c2 := by
  unfold missedTail at h
  split at h
  · cases hev : evictEntry c1 1 with
    | error x => rw [hev] at h; cases h
    | ok r =>
      rw [hev] at h
      obtain ⟨rfl, rfl⟩ := Prod.mk.inj (Except.ok.inj h)
      obtain ⟨hF, he⟩ := evict_inflight hev
      exact ⟨rfl, congrArg (· ++ [e]) hF,
        (((hq.ents he).modEnt e (fun x => { x with data := r.1.dataOf r.2 }) (fun _ => rfl)).modEnt r.2
          (fun x => { x with data := none }) (fun _ => rfl)).modEnt e
            (fun x => { x with key := k, state := .probe }) (fun _ => rfl)⟩
  · obtain ⟨rfl, rfl⟩ := Prod.mk.inj (Except.ok.inj h)
    exact ⟨rfl, rfl, hq.modEnt e (fun x => { x with key := k, state := .probe }) (fun _ => rfl)⟩

theorem missed_inflight {c c1 : Cache} {k e : Nat} (h : missed c k = .ok (c1, e)) :
    c1.F = c.F ++ [e] ∧ Quiet c c1 ∧ (e ∈ c.U ∨ e ∈ c.GB ∨ e ∈ c.GP) := by
  cases hUl : c.U.getLast? with
  | some u =>
    rw [missed_eq_U hUl] at h
    obtain ⟨rfl, hF, hq⟩ := missedTail_inflight h (Quiet.refl c)
    exact ⟨hF, hq, Or.inl (List.mem_of_getLast? hUl)⟩
  | none =>
    cases hGB : c.GB with
    | cons g rest =>
      rw [missed_eq_GB hUl hGB] at h
      obtain ⟨rfl, hF, hq⟩ := missedTail_inflight h (Quiet.refl c)
      exact ⟨hF, hq, Or.inr (Or.inl (List.mem_cons_self ..))⟩
    | nil =>
      cases hGPl : c.GP.getLast? with
      | some g =>
        rw [missed_eq_GP hUl hGB hGPl] at h
        obtain ⟨rfl, hF, hq⟩ := missedTail_inflight h (Quiet.refl c)
        exact ⟨hF, hq, Or.inr (Or.inr (List.mem_of_getLast? hGPl))⟩
      | none =>
        unfold missed at h
        rw [hUl, hGB, hGPl] at h
        cases h

theorem get_ghost_inflight {c c' : Cache} {d e : Nat} {b : Bool} {o : Out}
    (hs : (ghostHit { c with dprobe := d } e b).bind
      (fun c2 => .ok (incref { c2 with misses := c2.misses + 1 } e, .entry e false)) = .ok (c', o)) :
    ∃ c1, o = .entry e false ∧ c' = incref c1 e ∧ Quiet c c1 ∧ c1.F = c.F ++ [e] := by
  cases hgh : ghostHit { c with dprobe := d } e b with
  | error x => rw [hgh] at hs; cases hs
  | ok c2 =>
    rw [hgh] at hs
    obtain ⟨rfl, rfl⟩ := Prod.mk.inj (Except.ok.inj hs)
    obtain ⟨hF, hq⟩ := ghostHit_inflight hgh
    exact ⟨_, rfl, rfl, hq, hF⟩

/-- A lookup takes its reference in a cache `c1` whose counts are those of `c`; only the returned
entry can newly be in flight, on a miss, and it comes from the unused or a ghost list. -/
theorem get_inflight {c c' : Cache} {k : Nat} {o : Out} (hs : get c k = .ok (c', o)) :
    (o = .busy ∧ c' = c) ∨
    ∃ e v c1, o = .entry e v ∧ c' = incref c1 e ∧ Quiet c c1 ∧
      (c1.F = c.F ∨ (v = false ∧ c1.F = c.F ++ [e] ∧ (e ∈ c.U ∨ e ∈ c.GB ∨ e ∈ c.GP))) := by
  cases hP : c.P.find? (fun i => c.key i = k) with
  | some e =>
    rw [get_P hP] at hs
    obtain ⟨rfl, rfl⟩ := Prod.mk.inj (Except.ok.inj hs)
    exact Or.inr ⟨e, true, _, rfl, rfl, Quiet.refl c, Or.inl rfl⟩
  | none =>
  cases hB : c.B.reverse.find? (fun i => c.key i = k) with
  | some e =>
    rw [get_B hP hB] at hs
    obtain ⟨rfl, rfl⟩ := Prod.mk.inj (Except.ok.inj hs)
    exact Or.inr ⟨e, true, _, rfl, rfl, Quiet.refl c, Or.inl rfl⟩
  | none =>
  cases hF : c.F.find? (fun i => c.key i = k) with
  | some e =>
    rw [Kdf.Lemmas.Cache.get_F hP hB hF] at hs
    obtain ⟨rfl, rfl⟩ := Prod.mk.inj (Except.ok.inj hs)
    exact Or.inr ⟨e, false, _, rfl, rfl,
      (Quiet.refl c).modEnt e (fun x => { x with state := .precious }) (fun _ => rfl), Or.inl rfl⟩
  | none =>
  by_cases hb : c.pinned + c.F.length ≥ c.cap
  · rw [get_busy hP hB hF hb] at hs
    obtain ⟨rfl, rfl⟩ := Prod.mk.inj (Except.ok.inj hs)
    exact Or.inl ⟨rfl, rfl⟩
  · cases hGP : c.GP.find? (fun i => c.key i = k) with
    | some e =>
      obtain ⟨d, hget⟩ := get_GP hP hB hF hb hGP
      obtain ⟨c1, ho, hc', hq, hF1⟩ := get_ghost_inflight (hget ▸ hs)
      exact Or.inr ⟨e, false, c1, ho, hc', hq,
        Or.inr ⟨rfl, hF1, Or.inr (Or.inr (List.mem_of_find?_eq_some hGP))⟩⟩
    | none =>
    cases hGB : c.GB.reverse.find? (fun i => c.key i = k) with
    | some e =>
      obtain ⟨d, hget⟩ := get_GB hP hB hF hb hGP hGB
      obtain ⟨c1, ho, hc', hq, hF1⟩ := get_ghost_inflight (hget ▸ hs)
      exact Or.inr ⟨e, false, c1, ho, hc', hq,
        Or.inr ⟨rfl, hF1, Or.inr (Or.inl (List.mem_reverse.1 (List.mem_of_find?_eq_some hGB)))⟩⟩
    | none =>
      rw [get_miss hP hB hF hb hGP hGB] at hs
      cases hm : missed c k with
      | error x => rw [hm] at hs; cases hs
      | ok r =>
        rw [hm] at hs
        obtain ⟨rfl, rfl⟩ := Prod.mk.inj (Except.ok.inj hs)
        obtain ⟨hF2, hq, hmem⟩ := missed_inflight hm
        exact Or.inr ⟨r.2, false, _, rfl, rfl, hq, Or.inr ⟨rfl, hF2, hmem⟩⟩

theorem get_refcnt {c c' : Cache} (h : Inv c) {k e : Nat} {v : Bool}
    (hs : get c k = .ok (c', .entry e v)) (i : Nat) :
    c'.refcnt i = c.refcnt i + (if e = i then 1 else 0) := by
  have helt : e < c.ents.length := by
    obtain ⟨hI', hcap, -, hout⟩ := get_spec_of_ok ((inv_iff _).1 h) hs
    rw [h.len, ← hcap]
    cases v
    · exact live_lt hI' (inflight_live hout.1)
    · exact live_lt hI' (cached_live hout.2.2)
  rcases get_inflight hs with ⟨ho, -⟩ | ⟨e', v', c1, ho, rfl, hq, -⟩
  · cases ho
  · obtain ⟨rfl, rfl⟩ := Out.entry.inj ho
    unfold incref
    rw [refcnt_modEnt, hq.1]
    by_cases hie : i = e
    · subst hie
      rw [if_pos ⟨rfl, helt⟩, if_pos rfl]
      exact congrArg (· + 1) (hq.2 i)
    · rw [if_neg (fun h => hie h.1), if_neg (fun h => hie h.symm), hq.2 i]
      rfl

theorem get_cached_stays {c c' : Cache} (h : Inv c) {k : Nat} {o : Out}
    (hs : get c k = .ok (c', o)) (i : Nat) (hi : i ∈ cached c) (hr : c.refcnt i ≠ 0) :
    i ∈ cached c' := by
  obtain ⟨-, -, hfr, -⟩ := get_spec_of_ok ((inv_iff _).1 h) hs
  rcases live_cases (hfr.refd i (cached_live hi) hr).1 with h1 | h1
  · exact h1
  · -- it cannot have moved to the in-flight list
    exfalso
    rcases get_inflight hs with ⟨-, rfl⟩ | ⟨e, v, c1, -, rfl, -, hF | ⟨-, hF, hmem⟩⟩
    · exact cached_not_F h hi h1
    · exact cached_not_F h hi (hF ▸ h1)
    · rcases List.mem_append.1 (hF ▸ h1 : i ∈ c.F ++ [e]) with h2 | h2
      · exact cached_not_F h hi h2
      · rw [List.mem_singleton.1 h2] at hi
        exact spare_not_live h hmem (cached_live hi)

theorem insert_frame {c c' : Cache} (h : Inv c) {e : Nat} {o : Out}
    (hs : insert c e = .ok (c', o)) :
    (∀ i, c'.refcnt i = c.refcnt i ∧ c'.key i = c.key i ∧ c'.dataOf i = c.dataOf i) ∧
    (∀ i ∈ live c, i ∈ live c') ∧
    (∀ i, i ∈ cached c' ↔ (i ∈ cached c ∨ (i = e ∧ e ∈ c.F))) ∧
    c'.cap = c.cap := by
  unfold Kdf.Model.Cache.insert at hs
  split at hs
  · rename_i hv
    obtain ⟨rfl, -⟩ := Prod.mk.inj (Except.ok.inj hs)
    refine ⟨fun i => ⟨rfl, rfl, rfl⟩, fun i hi => hi, fun i => ⟨Or.inl, ?_⟩, rfl⟩
    rintro (hc | ⟨rfl, heF⟩)
    · exact hc
    · exact absurd hv (h.inflight_invalid _ heF)
  · split at hs
    · rename_i heF
      obtain ⟨hc', -⟩ := Prod.mk.inj (Except.ok.inj hs)
      have hcached : ∀ i, i ∈ cached c' ↔ (i ∈ cached c ∨ (i = e ∧ e ∈ c.F)) := by
        intro i
        rw [← hc']
        split
        · simp only [cached, modEnt_B, modEnt_P, List.mem_append, List.mem_singleton, and_iff_left heF,
            or_assoc, or_comm]
        · simp only [cached, modEnt_B, modEnt_P, List.mem_append, List.mem_cons, and_iff_left heF,
            or_left_comm, or_comm]
      subst hc'
      refine ⟨fun i => ?_, fun i hi => ?_, hcached, ?_⟩
      · -- either way only lists change under the `modEnt`
        split <;> exact ⟨refcnt_modEnt_keeps _ e (fun x => { x with state := .valid }) (fun _ => rfl) i,
          modEnt_same _ e (fun x => { x with state := .valid }) (fun _ => rfl) (fun _ => rfl) i⟩
      · by_cases hie : i = e
        · exact cached_live ((hcached i).2 (Or.inr ⟨hie, heF⟩))
        · rcases live_cases hi with hc | hF
          · exact cached_live ((hcached i).2 (Or.inl hc))
          · refine List.mem_append_right _ ?_
            split <;> exact (List.mem_erase_of_ne hie).2 hF
      · split <;> rfl
    · cases hs

theorem insert_ok {c : Cache} (h : Inv c) {e : Nat} (he : e ∈ live c) :
    ∃ c' o, insert c e = .ok (c', o) := by
  unfold Kdf.Model.Cache.insert
  rcases live_cases he with hc | heF
  · rw [if_pos (h.cached_valid e hc)]
    exact ⟨_, _, rfl⟩
  · rw [if_neg (h.inflight_invalid e heF), if_pos heF]
    exact ⟨_, _, rfl⟩

/-- what `cache_put_entry` and `cache_discard` have in common; `e` itself leaves the in-flight
list only with its last reference -/
structure Dropped (c c' : Cache) (e : Nat) : Prop where
  ref : ∀ i, c'.refcnt i + (if e = i then 1 else 0) = c.refcnt i
  key : ∀ i, c'.key i = c.key i
  data : ∀ i, c'.dataOf i = c.dataOf i
  cached : cached c' = cached c
  inflight : ∀ i ∈ c.F, ¬ (i = e ∧ c.refcnt e = 1) → i ∈ c'.F
  cap : c'.cap = c.cap

theorem dropped_decref {c : Cache} {e : Nat} (hr : c.refcnt e ≠ 0) : Dropped c (decref c e) e := by
  refine ⟨fun i => ?_, fun i => (decref_same c e i).1, fun i => (decref_same c e i).2, rfl,
    fun _ hi _ => hi, rfl⟩
  rw [refcnt_decref c (refcnt_lt_len hr) i]
  by_cases hie : i = e
  · subst hie
    rw [if_pos rfl, if_pos rfl]
    omega
  · rw [if_neg hie, if_neg (fun h => hie h.symm)]
    rfl

theorem put_frame {c c' : Cache} {e : Nat} {o : Out} (hs : put c e = .ok (c', o)) : Dropped c c' e := by
  unfold Kdf.Model.Cache.put at hs
  split at hs
  · cases hs
  · rename_i hr
    obtain ⟨rfl, -⟩ := Prod.mk.inj (Except.ok.inj hs)
    exact dropped_decref hr

theorem discard_frame {c c' : Cache} {e : Nat} {o : Out} (hs : discard c e = .ok (c', o)) :
    Dropped c c' e := by
  have hr : c.refcnt e ≠ 0 := by
    intro h0
    unfold Kdf.Model.Cache.discard at hs
    rw [if_pos h0] at hs
    cases hs
  rw [discard_eq hr] at hs
  split at hs
  · obtain ⟨rfl, -⟩ := Prod.mk.inj (Except.ok.inj hs)
    exact dropped_decref hr
  · rename_i hlast
    split at hs
    · obtain ⟨rfl, -⟩ := Prod.mk.inj (Except.ok.inj hs)
      refine { dropped_decref hr with inflight := fun i hi hne => ?_ }
      have hie : i ≠ e := fun hie => hne ⟨hie, Decidable.byContradiction fun h1 => hlast (Or.inl h1)⟩
      exact (List.mem_erase_of_ne hie).2 hi
    · cases hs

theorem discard_ok {c : Cache} (h : Inv c) {e : Nat} (he : e ∈ live c)
    (hr : c.refcnt e ≠ 0) : ∃ c' o, discard c e = .ok (c', o) := by
  rw [discard_eq hr]
  split
  · exact ⟨_, _, rfl⟩
  · rename_i hlast
    rcases live_cases he with hc | heF
    · exact absurd (Or.inr (h.cached_valid e hc)) hlast
    · rw [if_pos heF]
      exact ⟨_, _, rfl⟩

end Kdf.Lemmas.ConcCache
