import Kdf.Model.Dump
/-! `uncompress_rle` (C01) stays inside both buffers and inverts the LKCD encoder (`uncompressRle_rleEncode`). -/
namespace Kdf.Lemmas.DumpRle
open Kdf.Model.Dump

/-- While `remain` is the room left in the destination, the model's tests for a read at or past `src.length`
and for a store past `dstlen` never fire: the decoder is this program, without `oobRead` and `oobWrite`. -/
theorem rleGo_checked (src : List Nat) {dstlen remain : Nat} {out : List Nat} (hinv : remain + out.length = dstlen)
    (fuel i : Nat) :
    rleGo src dstlen (fuel+1) i remain out =
      match src[i]? with
      | none => .ok out
      | some byte =>
        if byte = 0 then
          match src[i+1]? with
          | none => .err
          | some cnt =>
            if cnt ≠ 0 then
              if remain < cnt then .err
              else match src[i+2]? with
                | none => .err
                | some v => rleGo src dstlen fuel (i+3) (remain - cnt) (out ++ List.replicate cnt v)
            else if remain = 0 then .err
            else rleGo src dstlen fuel (i+2) (remain - 1) (out ++ [0])
        else if remain = 0 then .err
        else rleGo src dstlen fuel (i+1) (remain - 1) (out ++ [byte]) := by
  -- the same tests on both sides; on the left the stores fit because `remain` has been checked
  rw [rleGo]
  cases h0 : src[i]? with
  | none => rw [if_neg (Nat.not_lt.mpr (List.getElem?_eq_none_iff.mp h0))]
  | some byte =>
    rw [if_pos (List.getElem?_eq_some_iff.mp h0).1]
    have lit : ∀ k c, (if remain = 0 then RleResult.err
          else if out.length + 1 > dstlen then .oobWrite else rleGo src dstlen fuel k (remain - 1) (out ++ [c])) =
        if remain = 0 then .err else rleGo src dstlen fuel k (remain - 1) (out ++ [c]) := fun k c =>
      ite_congr rfl (fun _ => rfl) (fun _ => if_neg (by omega))
    refine ite_congr rfl (fun _ => ?_) (fun _ => lit _ _)
    cases h1 : src[i+1]? with
    | none => exact if_pos (List.getElem?_eq_none_iff.mp h1)
    | some cnt =>
      rw [if_neg (Nat.not_le.mpr (List.getElem?_eq_some_iff.mp h1).1)]
      refine ite_congr rfl (fun _ => ite_congr rfl (fun _ => rfl) (fun _ => ?_)) (fun _ => lit _ _)
      cases h2 : src[i+2]? with
      | none => exact if_pos (List.getElem?_eq_none_iff.mp h2)
      | some v => exact (if_neg (Nat.not_le.mpr (List.getElem?_eq_some_iff.mp h2).1)).trans (if_neg (by omega))

/-- the result stays inside both buffers -/
def Safe (dstlen : Nat) (r : RleResult) : Prop :=
  r ≠ .oobRead ∧ r ≠ .oobWrite ∧ ∀ o, r = .ok o → o.length ≤ dstlen

theorem safe_err {dstlen : Nat} : Safe dstlen .err := ⟨nofun, nofun, nofun⟩

theorem safe_ok {dstlen : Nat} {out : List Nat} (h : out.length ≤ dstlen) : Safe dstlen (.ok out) :=
  ⟨nofun, nofun, fun _ e => RleResult.ok.inj e ▸ h⟩

theorem safe_ite {dstlen : Nat} {c : Prop} [Decidable c] {a b : RleResult} (ha : c → Safe dstlen a)
    (hb : ¬ c → Safe dstlen b) : Safe dstlen (if c then a else b) := by
  by_cases h : c
  · rw [if_pos h]; exact ha h
  · rw [if_neg h]; exact hb h

theorem go_total (src : List Nat) (dstlen : Nat) : ∀ fuel i remain out, remain + out.length = dstlen →
    Safe dstlen (rleGo src dstlen fuel i remain out) := by
  intro fuel
  induction fuel with
  | zero => intro i remain out _; exact safe_err
  | succ n ih =>
    intro i remain out h
    have lit : ∀ (k c : Nat), Safe dstlen
        (if remain = 0 then .err else rleGo src dstlen n k (remain - 1) (out ++ [c])) := fun k c =>
      safe_ite (fun _ => safe_err)
        (fun hr => ih _ _ _ (by rw [List.length_append, List.length_singleton]; omega))
    rw [rleGo_checked src h]
    cases src[i]? with
    | none => exact safe_ok (by omega)
    | some byte =>
      refine safe_ite (fun _ => ?_) (fun _ => lit _ _)
      cases src[i+1]? with
      | none => exact safe_err
      | some cnt =>
        refine safe_ite (fun _ => safe_ite (fun _ => safe_err) (fun hr => ?_)) (fun _ => lit _ _)
        cases src[i+2]? with
        | none => exact safe_err
        | some v => exact ih _ _ _ (by rw [List.length_append, List.length_replicate]; omega)

/-! One turn of the loop on each of the three forms of input, as a run of `cnt` bytes `v` (a literal
is a run of one). -/

section
variable {src : List Nat} {dstlen i remain : Nat} {out : List Nat} (fuel : Nat)

theorem step_run {cnt v : Nat} (h0 : src[i]? = some 0) (h1 : src[i+1]? = some cnt) (hc : cnt ≠ 0) (h2 : src[i+2]? = some v)
    (hinv : remain + out.length = dstlen) :
    rleGo src dstlen (fuel+1) i remain out =
      if remain < cnt then .err
      else rleGo src dstlen fuel (i+3) (remain - cnt) (out ++ List.replicate cnt v) := by
  rw [rleGo_checked src hinv, h0, h1, h2]
  dsimp only
  rw [if_pos rfl, if_pos hc]

theorem step_zero (h0 : src[i]? = some 0) (h1 : src[i+1]? = some 0) (hinv : remain + out.length = dstlen) :
    rleGo src dstlen (fuel+1) i remain out =
      if remain < 1 then .err else rleGo src dstlen fuel (i+2) (remain - 1) (out ++ List.replicate 1 0) := by
  rw [rleGo_checked src hinv, h0, h1]
  dsimp only
  rw [if_pos rfl, if_neg (fun h => h rfl)]
  simp only [Nat.lt_one_iff, List.replicate_one]

theorem step_lit {c : Nat} (h0 : src[i]? = some c) (hc : c ≠ 0) (hinv : remain + out.length = dstlen) :
    rleGo src dstlen (fuel+1) i remain out =
      if remain < 1 then .err else rleGo src dstlen fuel (i+1) (remain - 1) (out ++ List.replicate 1 c) := by
  rw [rleGo_checked src hinv, h0]
  dsimp only
  rw [if_neg hc]
  simp only [Nat.lt_one_iff, List.replicate_one]

end

theorem rleGo_past_end (src : List Nat) (dstlen f i remain : Nat) (out : List Nat) (h : src.length ≤ i) :
    rleGo src dstlen (f+1) i remain out = .ok out := by
  rw [rleGo, if_neg (by omega)]

theorem rleOp_cases (c rep : Nat) (h : 1 ≤ rep) :
    (rleOp c rep = [0, rep, c] ∧ 2 ≤ rep) ∨ (rleOp c rep = [c, c] ∧ c ≠ 0 ∧ rep = 2) ∨
    (rleOp c rep = [c] ∧ c ≠ 0 ∧ rep = 1) ∨ (rleOp c rep = [0, 0] ∧ c = 0 ∧ rep = 1) := by
  unfold rleOp
  by_cases hc : c = 0
  · subst hc
    by_cases h1 : rep = 1
    · subst h1; simp
    · have : min 3 (rep + 1) = 3 := by omega
      simp [this]; omega
  · simp only [hc, if_false]
    by_cases h1 : rep = 1
    · subst h1; simp [hc]
    · by_cases h2 : rep = 2
      · subst h2; simp [hc]
      · have : min 3 rep = 3 := by omega
        simp [this]; omega

theorem getElem?_append_length_add (pre l : List Nat) (k : Nat) : (pre ++ l)[pre.length + k]? = l[k]? := by
  rw [List.getElem?_append_right (Nat.le_add_right _ _), Nat.add_sub_cancel_left]

/-- an operation of `L` bytes takes at most `L` turns -/
theorem decode_rleOp (pre rest : List Nat) (c rep dstlen remain : Nat) (out : List Nat)
    (hrep : 1 ≤ rep) (hinv : remain + out.length = dstlen) (fuel : Nat) :
    ∃ fuel', fuel ≤ fuel' ∧
      rleGo (pre ++ (rleOp c rep ++ rest)) dstlen (fuel + (rleOp c rep).length) pre.length remain out =
        if remain < rep then .err
        else rleGo (pre ++ (rleOp c rep ++ rest)) dstlen fuel' (pre.length + (rleOp c rep).length)
              (remain - rep) (out ++ List.replicate rep c) := by
  rcases rleOp_cases c rep hrep with ⟨h, h2⟩ | ⟨h, hc, rfl⟩ | ⟨h, hc, rfl⟩ | ⟨h, rfl, rfl⟩ <;> rw [h]
  · exact ⟨fuel + 2, Nat.le_add_right _ _,
      step_run (fuel + 2) (getElem?_append_length_add pre _ 0) (getElem?_append_length_add pre _ 1) (by omega) (getElem?_append_length_add pre _ 2) hinv⟩
  · -- two literals, each with its own test of `remain`
    refine ⟨fuel, Nat.le_refl _, ?_⟩
    show rleGo _ dstlen (fuel + 1 + 1) _ _ _ = _
    rw [step_lit (fuel + 1) (getElem?_append_length_add pre _ 0) hc hinv]
    by_cases hr : remain < 1
    · rw [if_pos hr, if_pos (by omega)]
    · rw [if_neg hr, step_lit fuel (getElem?_append_length_add pre _ 1) hc
        (by rw [List.length_append, List.length_replicate]; omega)]
      by_cases hr2 : remain - 1 < 1
      · rw [if_pos hr2, if_pos (by omega)]
      · rw [if_neg hr2, if_neg (by omega), List.append_assoc, Nat.sub_sub]
        rfl
  · exact ⟨fuel, Nat.le_refl _, step_lit fuel (getElem?_append_length_add pre _ 0) hc hinv⟩
  · exact ⟨fuel + 1, Nat.le_add_right _ _, step_zero (fuel + 1) (getElem?_append_length_add pre _ 0) (getElem?_append_length_add pre _ 1) hinv⟩

theorem rleOp_length_pos (c rep : Nat) (h : 1 ≤ rep) : 1 ≤ (rleOp c rep).length := by
  rcases rleOp_cases c rep h with ⟨h, _⟩ | ⟨h, _⟩ | ⟨h, _⟩ | ⟨h, _⟩ <;> simp [h]

theorem rleGo_rleEncGo (dstlen : Nat) : ∀ (xs : List Nat) (prev rep : Nat) (pre out : List Nat)
    (remain fuel : Nat), 1 ≤ rep → remain + out.length = dstlen →
    (rleEncGo xs prev rep).length < fuel →
    rleGo (pre ++ rleEncGo xs prev rep) dstlen fuel pre.length remain out =
      if remain < rep + xs.length then .err else .ok (out ++ List.replicate rep prev ++ xs) := by
  intro xs
  induction xs with
  | nil =>
    intro prev rep pre out remain fuel hrep hinv hfuel
    rw [rleEncGo] at hfuel ⊢
    obtain ⟨k, rfl⟩ := Nat.exists_eq_add_of_le' (Nat.le_of_lt hfuel)
    obtain ⟨fuel', hf', hstep⟩ := decode_rleOp pre [] prev rep dstlen remain out hrep hinv k
    rw [List.append_nil] at hstep
    rw [hstep, List.length_nil, Nat.add_zero, List.append_nil]
    by_cases hr : remain < rep
    · rw [if_pos hr, if_pos hr]
    · obtain ⟨f, rfl⟩ : ∃ f, fuel' = f + 1 := ⟨fuel' - 1, by omega⟩
      rw [if_neg hr, if_neg hr, rleGo_past_end _ _ _ _ _ _ (by rw [List.length_append]; omega)]
  | cons cur rest ih =>
    intro prev rep pre out remain fuel hrep hinv hfuel
    rw [rleEncGo] at hfuel ⊢
    rw [List.length_cons]
    by_cases hcond : cur ≠ prev ∨ rep = 255
    · -- the run of `prev` ends here: its operation is decoded, then the rest with `cur` pending
      rw [if_pos hcond] at hfuel ⊢
      rw [List.length_append] at hfuel
      obtain ⟨k, rfl⟩ := Nat.exists_eq_add_of_le' (Nat.le_of_lt (Nat.lt_of_le_of_lt (Nat.le_add_right _ _) hfuel))
      obtain ⟨fuel', hf', hstep⟩ := decode_rleOp pre (rleEncGo rest cur 1) prev rep dstlen remain out hrep hinv k
      rw [hstep]
      by_cases hr : remain < rep
      · rw [if_pos hr, if_pos (by omega)]
      · rw [if_neg hr, ← List.length_append, ← List.append_assoc,
          ih cur 1 (pre ++ rleOp prev rep) (out ++ List.replicate rep prev) (remain - rep) fuel'
            (Nat.le_refl 1) (by rw [List.length_append, List.length_replicate]; omega) (by omega)]
        by_cases hr2 : remain - rep < 1 + rest.length
        · rw [if_pos hr2, if_pos (by omega)]
        · rw [if_neg hr2, if_neg (by omega), List.append_assoc _ _ rest]
          rfl
    · -- the run goes on
      rw [if_neg hcond] at hfuel ⊢
      have hcp : cur = prev := Decidable.of_not_not fun hne => hcond (Or.inl hne)
      subst hcp
      rw [ih cur (rep + 1) pre out remain fuel (by omega) hinv hfuel]
      by_cases hr : remain < rep + 1 + rest.length
      · rw [if_pos hr, if_pos (by omega)]
      · rw [if_neg hr, if_neg (by omega), List.replicate_succ', List.append_assoc, List.append_assoc,
          List.append_assoc]
        rfl

theorem uncompressRle_rleEncode (x : List Nat) (dstlen : Nat) :
    uncompressRle (rleEncode x) dstlen = if dstlen < x.length then .err else .ok x := by
  cases x with
  | nil => rfl
  | cons b rest =>
    have := rleGo_rleEncGo dstlen rest b 1 [] [] dstlen ((rleEncGo rest b 1).length + 1)
      (Nat.le_refl 1) rfl (Nat.lt_succ_self _)
    rw [uncompressRle, rleEncode, List.length_cons, Nat.add_comm rest.length]
    exact this

theorem rle_total (src : List Nat) (dstlen : Nat) :
    uncompressRle src dstlen ≠ .oobRead ∧ uncompressRle src dstlen ≠ .oobWrite ∧
    ∀ out, uncompressRle src dstlen = .ok out → out.length ≤ dstlen :=
  go_total src dstlen (src.length + 1) 0 dstlen [] rfl

theorem rle_roundtrip (x : List Nat) (dstlen : Nat) (h : x.length ≤ dstlen) :
    uncompressRle (rleEncode x) dstlen = .ok x := by
  rw [uncompressRle_rleEncode, if_neg (by omega)]

end Kdf.Lemmas.DumpRle
