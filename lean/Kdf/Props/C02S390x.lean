import Kdf.Lemmas.PgtS390x
/-!
# C02, z/Architecture — the model of `pgt_s390x` against the architectural specification

`walk` is the model, tied to the C code by the `walk` correspondence stream; `specS390x` is
dynamic address translation as the architecture defines it, `specWith library` the same with
the one documented library deviation (D2) switched on.
-/
namespace Kdf.Props.C02S390x
set_option linter.unusedVariables false
open Kdf.Model.Pgt Kdf.Spec.ArchWalk Kdf.Lemmas.Pgt Kdf.Model.PgtArch Kdf.Model.PgtS390x
open Kdf.Spec.ArchS390x Kdf.Lemmas.PgtWalk Kdf.Lemmas.PgtS390x

/-- The model of `pgt_s390x` is the architectural walk with the one documented library
deviation (D2: PTE bit 52 not checked) — on every memory. -/
theorem walk_eq_specWith_library (mem : Mem) (t : Nat) (root : FullAddr) (pteMask : Nat)
    (pf : PagingForm) (va : Nat) (hform : archFormS390x pf = true) (hmask : pteMask < W) :
    (walk extra mem (.pgt t root pteMask pf) va).map (·.base) =
      specWith library mem t root pteMask pf va := by
  have hF := s390Fields_of_form pf hform
  exact walk_pgt_generic mem t root pteMask pf va _ _ _ (Nat.le_of_succ_le hF.len2) hF.lt64
    (firstOK_unsigned _ _ _ _ _ (by simp only [firstStep, hF.fmt]) hF.lt64)
    (fun h => initStep_elemsz root pf va h (k := 3) (by rw [hF.fmt]; rfl))
    (stepSim_s390x mem t pteMask pf va hform hmask)

/-- **C02 for z/Architecture**: outside the documented deviation class the model of
`addrxlat_walk` over an s390x page-table method equals dynamic address translation as the
architecture defines it. -/
theorem walk_eq_spec_s390x (mem : Mem) (hmem : MemWF mem) (t : Nat) (root : FullAddr) (pteMask : Nat)
    (pf : PagingForm) (va : Nat) (hform : archFormS390x pf = true) (hva : va < W)
    (hroot : root.addr < W) (hmask : pteMask < W)
    (hdev : knownDeviation mem t root pteMask pf va = false) :
    (walk extra mem (.pgt t root pteMask pf) va).map (·.base) =
      specS390x mem t root pteMask pf va := by
  rw [walk_eq_specWith_library mem t root pteMask pf va hform hmask]
  exact sameResult_eq (by simpa [knownDeviation, specS390x] using hdev)

/-! ### Non-vacuity, the table offset/length rule and the deviation D2 on concrete tables

Region-third table at 0x0, segment table at 0x1000, page table at 0x2000 (all in address
space 0).  -/
def demoMem (r3e ste pte : Nat) : Mem := fun _ a sz =>
  if sz ≠ 8 then .error .nodata
  else if a = 0x0 + 8 * 1 then .ok r3e            -- R3[1]
  else if a = 0x1000 + 8 * 0x600 then .ok ste     -- SEG[0x600]  (quarter 3)
  else if a = 0x2000 + 8 * 5 then .ok pte         -- PT[5]
  else .ok 0x20                                   -- everything else invalid

def demoForm : PagingForm := ⟨.s390x, [12, 8, 11, 11]⟩
def demoVa : Nat := 1 * 2^31 + 0x600 * 2^20 + 5 * 2^12 + 0x123

example : archFormS390x demoForm = true := by decide

/-- a full three-level walk: R3 entry (TT=01, TF=0, TL=3) → segment-table entry → page -/
example : (walk extra (demoMem 0x1007 0x2000 0x7654000) (.pgt 0 ⟨0, 0⟩ 0 demoForm) demoVa).map (·.base)
    = .ok ⟨0x7654123, 0⟩ := by rfl
example : specS390x (demoMem 0x1007 0x2000 0x7654000) 0 ⟨0, 0⟩ 0 demoForm demoVa = .ok ⟨0x7654123, 0⟩ := by rfl
example : knownDeviation (demoMem 0x1007 0x2000 0x7654000) 0 ⟨0, 0⟩ 0 demoForm demoVa = false := by rfl

/-- 1 MiB frame (segment-table entry with FC = 1) and 2 GiB frame (region-third-table entry with FC = 1) -/
example : specS390x (demoMem 0x1007 0x500400 0) 0 ⟨0, 0⟩ 0 demoForm demoVa = .ok ⟨0x500000 + 0x5123, 0⟩ := by rfl
example : specS390x (demoMem 0x80000404 0 0) 0 ⟨0, 0⟩ 0 demoForm demoVa
    = .ok ⟨0x80000000 + 0x600 * 2^20 + 0x5123, 0⟩ := by rfl

/-- Table length: the region-third-table entry has TL = 0 (only quarter 0 of the segment table
exists), the segment index 0x600 lies in quarter 3: segment-translation exception. -/
example : specS390x (demoMem 0x1004 0x2000 0x7654000) 0 ⟨0, 0⟩ 0 demoForm demoVa = .error .notpresent := by rfl
example : (walk extra (demoMem 0x1004 0x2000 0x7654000) (.pgt 0 ⟨0, 0⟩ 0 demoForm) demoVa).map (·.base)
    = .error .notpresent := by rfl
example : knownDeviation (demoMem 0x1004 0x2000 0x7654000) 0 ⟨0, 0⟩ 0 demoForm demoVa = false := by rfl

/-- Table offset: TF = 1, TL = 3, quarter 3 is inside: translates. -/
example : specS390x (demoMem 0x1047 0x2000 0x7654000) 0 ⟨0, 0⟩ 0 demoForm demoVa = .ok ⟨0x7654123, 0⟩ := by rfl
example : (walk extra (demoMem 0x1047 0x2000 0x7654000) (.pgt 0 ⟨0, 0⟩ 0 demoForm) demoVa).map (·.base)
    = .ok ⟨0x7654123, 0⟩ := by rfl
example : knownDeviation (demoMem 0x1047 0x2000 0x7654000) 0 ⟨0, 0⟩ 0 demoForm demoVa = false := by rfl

/-- D2: valid page-table entry with bit 52 = 1.  Architecture: translation-specification
exception.  Library: translates. -/
example : specS390x (demoMem 0x1007 0x2000 0x7654800) 0 ⟨0, 0⟩ 0 demoForm demoVa = .error .invalid := by rfl
example : (walk extra (demoMem 0x1007 0x2000 0x7654800) (.pgt 0 ⟨0, 0⟩ 0 demoForm) demoVa).map (·.base)
    = .ok ⟨0x7654123, 0⟩ := by rfl
example : knownDeviation (demoMem 0x1007 0x2000 0x7654800) 0 ⟨0, 0⟩ 0 demoForm demoVa = true := by rfl

end Kdf.Props.C02S390x
