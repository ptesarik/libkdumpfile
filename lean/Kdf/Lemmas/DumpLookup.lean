import Kdf.Model.Dump
import Kdf.Lemmas.Pfn
import Kdf.Lemmas.PfnRegions
import Kdf.Lemmas.PfnFind
/-! C01: PFN → position (`pfnToPos_spec`); the LKCD page stream, index and scan invariant (search theorems:
`DumpFault.lean`). -/

namespace Kdf.Lemmas.DumpLookup
open Kdf.Model.Pfn Kdf.Model.Dump Kdf.Lemmas.Pfn

/-- number of set bits in `[start, p)` -/
def rank (msb0 : Bool) (bm : Bitmap) (start p : Nat) : Nat :=
  ((List.range (p - start)).filter (fun i => bitOf msb0 bm (start + i))).length

theorem rank_eq_cntB (msb0 : Bool) (bm : Bitmap) (start p : Nat) :
    rank msb0 bm start p = cntB (bitOf msb0 bm) start (p - start) := rfl

/-- PFN → position: a frame whose bit is set inside the window is found at
`fileoff + esz · rank`; every other frame is not found.  (diskdump: LSB0,
`esz = 24`, position of the page descriptor; SADUMP: MSB0, `esz` = page size,
position of the page data relative to the start of the data area.) -/
theorem pfnToPos_spec (msb0 : Bool) (bm : Bitmap) (hb : BytesWF bm) (startPfn endPfn fileoff esz p : Nat) :
    pfnToPos (regionsFromBitmap bm msb0 startPfn endPfn fileoff esz) esz p =
      if startPfn ≤ p ∧ p < endPfn ∧ bitOf msb0 bm p = true then some (fileoff + esz * rank msb0 bm startPfn p)
      else none := by
  obtain ⟨hmax, hin, hcov, hpos⟩ := regionsFromBitmap_runs msb0 bm hb startPfn endPfn fileoff esz
  generalize regionsFromBitmap bm msb0 startPfn endPfn fileoff esz = rs at *
  have hs : RegionsSorted rs := ⟨hmax.1.imp Nat.le_of_lt, hmax.2⟩
  unfold pfnToPos
  cases hfr : findRegion rs p with
  | none =>
    have hn := findRegion_none hs hfr
    dsimp only
    rw [if_neg]
    rintro ⟨h1, h2, h3⟩
    obtain ⟨r, hr, hh⟩ := hcov p h1 h2 h3
    have := hn r hr
    have := hh.2
    omega
  | some r =>
    obtain ⟨hr, hlt, hmin⟩ := findRegion_some hs hfr
    dsimp only
    obtain ⟨i1, i2, i3⟩ := hin r hr
    by_cases hge : p ≥ r.pfn
    · rw [if_pos hge, if_pos ⟨by omega, by omega, i3 p ⟨hge, hlt⟩⟩]
      congr 1
      rw [hpos r hr, rank_eq_cntB]
      have e : p - startPfn = (r.pfn - startPfn) + (p - r.pfn) := by omega
      rw [e, cntB_add, cntB_true _ (startPfn + (r.pfn - startPfn)) (p - r.pfn)
        (fun i hi => i3 _ ⟨by omega, by omega⟩), Nat.mul_add, Nat.mul_comm (p - r.pfn) esz]
      omega
    · rw [if_neg hge, if_neg]
      rintro ⟨h1, h2, h3⟩
      obtain ⟨r', hr', hh⟩ := hcov p h1 h2 h3
      have := hmin r' hr' hh.2
      have := hh.1
      omega

/-! ### LKCD: the page stream and the descriptor search -/

/-- offsets of the descriptors of a page stream that starts at `off` -/
def streamOffs : List LkcdDesc → Nat → List Nat
  | [], _ => []
  | d :: ds, off => off :: streamOffs ds (off + 16 + d.size)

/-- offset right behind the stream -/
def streamEnd : List LkcdDesc → Nat → Nat
  | [], off => off
  | d :: ds, off => streamEnd ds (off + 16 + d.size)

/-- the descriptor reader of a well-formed file: the page descriptors (no END
flag), then one END marker -/
def streamReader (ds : List LkcdDesc) (dataOff : Nat) (off : Nat) : Option LkcdDesc :=
  match (streamOffs ds dataOff).idxOf? off with
  | some i => ds[i]?
  | none => if off = streamEnd ds dataOff then some ⟨0, 0, 4⟩ else none

/-- frame number of descriptor -/
def pfnOf (shift : Nat) (d : LkcdDesc) : Nat := d.address / 2^shift

/-- the state after `k` descriptors were indexed.  `endOffset = 0` is the C sentinel for "end not seen", hence
`dataOff ≠ 0`: no offset of the stream is 0. -/
def Inv (ds : List LkcdDesc) (dataOff shift : Nat) (st : LkcdState) : Prop :=
  ∃ k, k ≤ ds.length ∧
    st.lastOffset = streamEnd (ds.take k) dataOff ∧
    st.index = ((ds.take k).zip (streamOffs ds dataOff)).map (fun (d, o) => (pfnOf shift d, o)) ∧
    (st.endOffset = 0 ∨ (k = ds.length ∧ st.endOffset = st.lastOffset)) ∧
    (dataOff ≠ 0)

theorem streamOffs_length : ∀ (ds : List LkcdDesc) (off : Nat), (streamOffs ds off).length = ds.length
  | [], _ => rfl
  | d :: ds, off => by simp [streamOffs, streamOffs_length ds]

theorem streamOffs_getElem : ∀ (ds : List LkcdDesc) (off i : Nat) (h : i < (streamOffs ds off).length),
    (streamOffs ds off)[i] = streamEnd (ds.take i) off
  | [], _, _, h => by simp [streamOffs] at h
  | d :: ds, off, 0, _ => by simp [streamOffs, streamEnd]
  | d :: ds, off, i+1, h => by
    simp only [streamOffs, List.getElem_cons_succ, List.take_succ_cons, streamEnd]
    exact streamOffs_getElem ds _ i _

theorem streamEnd_take_succ : ∀ (ds : List LkcdDesc) (off i : Nat) (h : i < ds.length),
    streamEnd (ds.take (i+1)) off = streamEnd (ds.take i) off + 16 + ds[i].size
  | [], _, _, h => by simp at h
  | d :: ds, off, 0, _ => by simp [streamEnd]
  | d :: ds, off, i+1, h => by
    simp only [List.take_succ_cons, streamEnd, List.getElem_cons_succ]
    exact streamEnd_take_succ ds _ i _

theorem streamEnd_take_lt (ds : List LkcdDesc) (off : Nat) :
    ∀ j i, i < j → j ≤ ds.length → streamEnd (ds.take i) off < streamEnd (ds.take j) off := by
  intro j
  induction j with
  | zero => intro i h; omega
  | succ j ih =>
    intro i hij hj
    rw [streamEnd_take_succ ds off j (by omega)]
    by_cases he : i = j
    · subst he; omega
    · have := ih i (by omega) (by omega); omega

theorem streamEnd_take_ge (ds : List LkcdDesc) (off i : Nat) (h : i ≤ ds.length) :
    off ≤ streamEnd (ds.take i) off := by
  cases i with
  | zero => simp [streamEnd]
  | succ i => have := streamEnd_take_lt ds off (i+1) 0 (by omega) h; simp [streamEnd] at this; omega

theorem reader_at (ds : List LkcdDesc) (off k : Nat) (h : k < ds.length) :
    streamReader ds off (streamEnd (ds.take k) off) = some ds[k] := by
  have hi : (streamOffs ds off).idxOf? (streamEnd (ds.take k) off) = some k := by
    unfold List.idxOf?
    rw [List.findIdx?_eq_some_iff_getElem]
    refine ⟨by rw [streamOffs_length]; exact h, by simp [streamOffs_getElem], ?_⟩
    intro j hj
    have := streamEnd_take_lt ds off k j hj (by omega)
    simp [streamOffs_getElem]; omega
  unfold streamReader
  rw [hi]
  simp [h]

theorem reader_end (ds : List LkcdDesc) (off : Nat) :
    streamReader ds off (streamEnd ds off) = some ⟨0, 0, 4⟩ := by
  have hi : (streamOffs ds off).idxOf? (streamEnd ds off) = none := by
    rw [List.idxOf?_eq_none_iff]
    intro hm
    obtain ⟨i, hi, he⟩ := List.getElem_of_mem hm
    rw [streamOffs_getElem] at he
    rw [streamOffs_length] at hi
    have := streamEnd_take_lt ds off ds.length i hi (Nat.le_refl _)
    rw [List.take_length] at this
    omega
  unfold streamReader
  rw [hi]
  simp

/-- the first descriptor of the stream whose frame is `p`, with its offset; missing data if there is none -/
def expect (ds : List LkcdDesc) (dataOff shift p : Nat) : LkcdFind :=
  match (ds.map (pfnOf shift)).idxOf? p with
  | some i => (match ds[i]?, (streamOffs ds dataOff)[i]? with
      | some d, some o => LkcdFind.found o d
      | _, _ => LkcdFind.nodata)
  | none => LkcdFind.nodata

theorem pfnOf_ne {ds : List LkcdDesc} {shift : Nat} (hnd : (ds.map (pfnOf shift)).Nodup) {i j : Nat}
    (hij : i < j) (hj : j < ds.length) : pfnOf shift (ds[i]'(Nat.lt_trans hij hj)) ≠ pfnOf shift ds[j] := by
  have := (List.pairwise_iff_getElem.mp (List.nodup_iff_pairwise_ne.mp hnd)) i j
    (by rw [List.length_map]; omega) (by rw [List.length_map]; exact hj) hij
  rwa [List.getElem_map, List.getElem_map] at this

theorem expect_found (ds : List LkcdDesc) (dataOff shift p : Nat)
    (hnd : (ds.map (pfnOf shift)).Nodup) (i : Nat) (h : i < ds.length) (hp : pfnOf shift ds[i] = p) :
    expect ds dataOff shift p = .found (streamEnd (ds.take i) dataOff) ds[i] := by
  have hi : (ds.map (pfnOf shift)).idxOf? p = some i := by
    unfold List.idxOf?
    rw [List.findIdx?_eq_some_iff_getElem]
    refine ⟨by simpa using h, by simp [hp], ?_⟩
    intro j hj
    simp only [List.getElem_map, beq_iff_eq]
    exact hp ▸ pfnOf_ne hnd hj h
  unfold expect
  rw [hi]
  have h2 : i < (streamOffs ds dataOff).length := by rw [streamOffs_length]; exact h
  simp [h, h2, streamOffs_getElem]

theorem expect_none (ds : List LkcdDesc) (dataOff shift p : Nat)
    (hp : ∀ i (h : i < ds.length), pfnOf shift ds[i] ≠ p) :
    expect ds dataOff shift p = .nodata := by
  have hi : (ds.map (pfnOf shift)).idxOf? p = none := by
    rw [List.idxOf?_eq_none_iff]
    intro hm
    obtain ⟨i, hi, he⟩ := List.getElem_of_mem hm
    simp only [List.getElem_map] at he
    exact hp i (by simpa using hi) he
  unfold expect
  rw [hi]

/-- the index after `k` descriptors -/
def mkIndex (ds : List LkcdDesc) (dataOff shift k : Nat) : List (Nat × Nat) :=
  ((ds.take k).zip (streamOffs ds dataOff)).map (fun (d, o) => (pfnOf shift d, o))

section
variable {ds : List LkcdDesc} {dataOff shift k p : Nat}

theorem mkIndex_length (hk : k ≤ ds.length) :
    (mkIndex ds dataOff shift k).length = k := by
  simp [mkIndex, streamOffs_length]; omega

theorem mkIndex_getElem (hk : k ≤ ds.length) (i : Nat)
    (h : i < (mkIndex ds dataOff shift k).length) :
    (mkIndex ds dataOff shift k)[i] =
      (pfnOf shift (ds[i]'(by rw [mkIndex_length hk] at h; omega)), streamEnd (ds.take i) dataOff) := by
  simp [mkIndex, streamOffs_getElem]

theorem mkIndex_succ (hk : k < ds.length) :
    mkIndex ds dataOff shift k ++ [(pfnOf shift ds[k], streamEnd (ds.take k) dataOff)] =
      mkIndex ds dataOff shift (k+1) := by
  apply List.ext_getElem
  · simp [mkIndex_length (Nat.le_of_lt hk), mkIndex_length hk]
  · intro i h1 h2
    rw [mkIndex_getElem hk]
    rw [mkIndex_length hk] at h2
    by_cases hik : i < k
    · rw [List.getElem_append_left (by rw [mkIndex_length (Nat.le_of_lt hk)]; exact hik),
        mkIndex_getElem (Nat.le_of_lt hk)]
    · have : i = k := by omega
      subst this
      rw [List.getElem_append_right (by rw [mkIndex_length (Nat.le_of_lt hk)]; omega)]
      simp [mkIndex_length (Nat.le_of_lt hk)]

theorem lookup_none (hk : k ≤ ds.length)
    (h : lkLookup (mkIndex ds dataOff shift k) p = none) :
    ∀ i (hi : i < ds.length), i < k → pfnOf shift ds[i] ≠ p := by
  intro i hi hik hp
  unfold lkLookup at h
  simp only [Option.map_eq_none_iff] at h
  rw [List.find?_eq_none] at h
  have hl : i < (mkIndex ds dataOff shift k).length := by rw [mkIndex_length hk]; exact hik
  have := h _ (List.getElem_mem hl)
  rw [mkIndex_getElem hk] at this
  simp [hp] at this

theorem lookup_some {off : Nat} (hk : k ≤ ds.length)
    (h : lkLookup (mkIndex ds dataOff shift k) p = some off) :
    ∃ i, ∃ hi : i < ds.length, i < k ∧ pfnOf shift ds[i] = p ∧ off = streamEnd (ds.take i) dataOff := by
  unfold lkLookup at h
  simp only [Option.map_eq_some_iff] at h
  obtain ⟨e, he, rfl⟩ := h
  have h1 := List.find?_some he
  obtain ⟨i, hi, hei⟩ := List.getElem_of_mem (List.mem_of_find?_eq_some he)
  rw [mkIndex_getElem hk] at hei
  rw [mkIndex_length hk] at hi
  subst hei
  exact ⟨i, by omega, hi, by simpa using h1, rfl⟩

theorem lookup_none_of (hk : k ≤ ds.length)
    (h : ∀ i (hi : i < ds.length), i < k → pfnOf shift ds[i] ≠ p) :
    lkLookup (mkIndex ds dataOff shift k) p = none := by
  cases hl : lkLookup (mkIndex ds dataOff shift k) p with
  | none => rfl
  | some off =>
    obtain ⟨i, hi, hik, hp, _⟩ := lookup_some hk hl
    exact absurd hp (h i hi hik)

end

/-- `Inv` with the number of indexed descriptors made explicit -/
def InvK (ds : List LkcdDesc) (dataOff shift k : Nat) (st : LkcdState) : Prop :=
  k ≤ ds.length ∧
    st.lastOffset = streamEnd (ds.take k) dataOff ∧
    st.index = mkIndex ds dataOff shift k ∧
    (st.endOffset = 0 ∨ (k = ds.length ∧ st.endOffset = st.lastOffset)) ∧
    (dataOff ≠ 0)

theorem inv_iff (ds : List LkcdDesc) (dataOff shift : Nat) (st : LkcdState) :
    Inv ds dataOff shift st ↔ ∃ k, InvK ds dataOff shift k st := Iff.rfl

theorem inv_init (ds : List LkcdDesc) (dataOff shift : Nat) (h : dataOff ≠ 0) :
    Inv ds dataOff shift ⟨dataOff, 0, [], 0⟩ :=
  ⟨0, Nat.zero_le _, by simp [streamEnd], by simp, Or.inl rfl, h⟩

section
variable {ds : List LkcdDesc} {dataOff shift k : Nat} {st : LkcdState}

theorem InvK.le (hK : InvK ds dataOff shift k st) : k ≤ ds.length := hK.1
theorem InvK.lastOffset_eq (hK : InvK ds dataOff shift k st) : st.lastOffset = streamEnd (ds.take k) dataOff := hK.2.1
theorem InvK.index_eq (hK : InvK ds dataOff shift k st) : st.index = mkIndex ds dataOff shift k := hK.2.2.1
theorem InvK.dataOff_ne (hK : InvK ds dataOff shift k st) : dataOff ≠ 0 := hK.2.2.2.2

theorem InvK.read_end (hK : InvK ds dataOff shift ds.length st) : streamReader ds dataOff st.lastOffset = some ⟨0, 0, 4⟩ := by
  rw [hK.lastOffset_eq, List.take_length]
  exact reader_end ds dataOff

theorem InvK.read (hK : InvK ds dataOff shift k st) (hlt : k < ds.length) :
    streamReader ds dataOff st.lastOffset = some ds[k] := by
  rw [hK.lastOffset_eq]
  exact reader_at ds dataOff k hlt

theorem InvK.fresh (hK : InvK ds dataOff shift k st) (hnd : (ds.map (pfnOf shift)).Nodup) (hlt : k < ds.length) :
    lkLookup st.index (pfnOf shift ds[k]) = none := by
  rw [hK.index_eq]
  apply lookup_none_of hK.le
  exact fun i _ hik => pfnOf_ne hnd hik hlt

theorem InvK.advance (hK : InvK ds dataOff shift k st) (hlt : k < ds.length) (m : Nat) :
    InvK ds dataOff shift (k+1)
      { st with index := st.index ++ [(pfnOf shift ds[k], st.lastOffset)], maxPfn := m,
                lastOffset := st.lastOffset + 16 + ds[k].size } := by
  obtain ⟨hk, hlast, hidx, hendo, hd0⟩ := hK
  refine ⟨hlt, ?_, ?_, Or.inl ?_, hd0⟩
  · show st.lastOffset + 16 + ds[k].size = _
    rw [hlast, streamEnd_take_succ ds dataOff k hlt]
  · show st.index ++ [(pfnOf shift ds[k], st.lastOffset)] = _
    rw [hidx, hlast, mkIndex_succ hlt]
  · rcases hendo with h | ⟨h, _⟩
    · exact h
    · omega

theorem InvK.mark_end (hK : InvK ds dataOff shift ds.length st) :
    InvK ds dataOff shift ds.length { st with endOffset := st.lastOffset } :=
  ⟨hK.le, hK.lastOffset_eq, hK.index_eq, Or.inr ⟨rfl, rfl⟩, hK.dataOff_ne⟩

theorem InvK.at_end (hK : InvK ds dataOff shift k st) (heq : st.lastOffset = st.endOffset) : k = ds.length := by
  obtain ⟨hk, hlast, -, hendo, hd0⟩ := hK
  have := streamEnd_take_ge ds dataOff k hk
  rcases hendo with h | ⟨h, _⟩
  · omega
  · exact h

end

example : pfnToPos (regionsFromBitmap [0x67, 0x0e] false 0 16 1000 24) 24 6 = some (1000 + 24 * 4) := by decide
example : rank false [0x67, 0x0e] 0 6 = 4 := by decide
example : sadumpWalk [⟨100, 10, 0⟩, ⟨200, 10, 1⟩] 13 = some (1, 203) := by decide
example :
    let ds : List LkcdDesc := [⟨0x3000, 5, 1⟩, ⟨0x1000, 7, 2⟩]
    (lkGet (streamReader ds 64) 12 id 3 ⟨64, 0, [], 0⟩ 1).2 = .found 85 ⟨0x1000, 7, 2⟩ := by decide
example :
    let ds : List LkcdDesc := [⟨0x3000, 5, 1⟩, ⟨0x1000, 7, 2⟩]
    (lkGet (streamReader ds 64) 12 id 3 ⟨64, 0, [], 0⟩ 2).2 = .nodata := by decide

end Kdf.Lemmas.DumpLookup
