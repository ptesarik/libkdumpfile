import Kdf.Lemmas.ResAx
import Kdf.Model.BlobPin
/-!
# C15 — every path gives back what it took

Model: `Kdf.Model.Res` (event traces at the cache / allocator interface, for every
answer of the environment) and its ledger semantics `runEvs`.  `Runs evs L L'`
(`Kdf.Lemmas.Res`): the trace `evs` can be executed from the ledger `L` — nothing
is given back that is not held at that moment — and leaves the multiset `L'`.
In file order: the ledger itself; the diskdump read path; sessions of reads and
lent pages; `fcache_get_fb` and the Xen table scan; the SADUMP magic scan;
libaddrxlat's read cache and callback records; concrete traces; and, with a
ledger of its own (`Kdf.Model.BlobPin`), the pin on a derived attribute's blob.

All statements are over *all* oracles (validity and address of every cache
entry, outcome of every pread/mmap/malloc — in particular every fault point),
all page descriptors, all lengths and positions, all policies and all start
ledgers; loops (`fcache_pread`, `fcache_get_chunk`, `read_locked`, sessions)
are handled by induction, there is no bound.

Not proved here: that the `stuck` result of the model (oracle does not fit the
call, or `fcache_get_chunk` would store an entry outside its array) is never
reached by the implementation — the correspondence check would show it as a
differing trace (`STUCK`).
-/
namespace Kdf.Props.C15
open Kdf.Model.Res Kdf.Lemmas.Res

/-- the ledger checker is sound for the counting reading of the property: if a
trace runs from `L` to `M`, then for every resource the number held at the end
is what was held before, plus what was taken, minus what was given back -/
theorem ledger_sound {L M : List Res} (evs : List Ev) (r : Res) (h : runEvs evs L = some M) :
    M.count r + gives r evs = L.count r + takes r evs := by
  induction evs generalizing L with
  | nil => obtain rfl := Option.some.inj h; rfl
  | cons e es ih =>
    obtain ⟨N, ha, h⟩ := runEvs_cons.mp h
    have h1 := (act e).apply_count r ha
    have h2 := ih h
    rw [takes_cons, gives_cons]; omega

/-- the ledger checker is prefix closed: in a trace that runs, no prefix gives back
something that is not held at that point -/
theorem ledger_prefix {L M : List Res} (a b : List Ev) (h : runEvs (a ++ b) L = some M) :
    ∃ N, runEvs a L = some N := by
  rw [runEvs_append] at h
  obtain ⟨N, ha, _⟩ := Option.bind_eq_some_iff.mp h
  exact ⟨N, ha⟩

/-- frame rule: what a trace does not touch can be added to the ledger -/
theorem runs_frame {evs : List Ev} {L L' : List Res} (h : Runs evs L L') (F : List Res) :
    Runs evs (L ++ F) (L' ++ F) :=
  h.frame F

/-- `fcache_get` (all four mmap policies, failed mapping remembered in the
cache, fallback to read): success holds exactly the returned entry, every
failure holds nothing -/
theorem fcacheGet_balanced (cfg : Cfg) (pol : Policy) (fidx pos : Nat) (orc : List Ext) (L : List Res) :
    Runs (fcacheGet cfg pol fidx pos orc).evs L
      ((match (fcacheGet cfg pol fidx pos orc).res with
        | .ok (f, _) => [Res.pin f.c f.key]
        | _ => []) ++ L) := by
  have h := fcacheGet_runs cfg L pol fidx pos orc
  generalize (fcacheGet cfg pol fidx pos orc).res = r at h ⊢
  cases r <;> exact h

/-- `fcache_pread`: whatever happens in whichever round, nothing stays held -/
theorem fcachePread_balanced (cfg : Cfg) (fuel : Nat) (pol : Policy) (len fidx pos : Nat) (orc : List Ext) (L : List Res) :
    Runs (fcachePread cfg fuel pol len fidx pos orc).evs L L :=
  fcachePread_runs cfg L fuel pol len fidx pos orc

/-- `fcache_get_chunk`: a failure (any round, before or after the switch to a
copied buffer, failing `malloc` of the entry array or of the copy buffer)
holds nothing; success holds exactly what the returned chunk describes, and
that chunk is one `fcache_put_chunk` can take apart -/
theorem fcacheGetChunk_balanced (cfg : Cfg) (pol : Policy) (len fidx pos : Nat) (orc : List Ext) (L : List Res) :
    Runs (fcacheGetChunk cfg pol len fidx pos orc).evs L
      ((match (fcacheGetChunk cfg pol len fidx pos orc).res with
        | .ok (.chunk c _) => chunkRes c
        | _ => []) ++ L)
    ∧ ∀ c p, (fcacheGetChunk cfg pol len fidx pos orc).res = .ok (.chunk c p) → WF cfg c := by
  have h := fcacheGetChunk_runs cfg L pol len fidx pos orc
  refine ⟨?_, h.2⟩
  have h := h.1
  generalize (fcacheGetChunk cfg pol len fidx pos orc).res = r at h ⊢
  cases r <;> exact h

/-- `fcache_put_chunk` gives back exactly what a well-formed chunk holds -/
theorem fcachePutChunk_balanced (cfg : Cfg) (c : Chunk) (L : List Res) (hwf : WF cfg c) :
    Runs (fcachePutChunk cfg c) (chunkRes c ++ L) L :=
  fcachePutChunk_runs cfg L c hwf

/-- get followed by put returns to the start ledger -/
theorem chunk_roundtrip (cfg : Cfg) (pol : Policy) (len fidx pos : Nat) (orc : List Ext) (L : List Res)
    (c : Chunk) (p : Policy) (h : (fcacheGetChunk cfg pol len fidx pos orc).res = .ok (.chunk c p)) :
    Runs ((fcacheGetChunk cfg pol len fidx pos orc).evs ++ fcachePutChunk cfg c) L L := by
  have hg := fcacheGetChunk_runs cfg L pol len fidx pos orc
  have h1 : Runs _ L (chunkRes c ++ L) := h ▸ hg.1
  exact Runs.append h1 (fcachePutChunk_runs cfg L c (hg.2 c p h))

/-- `diskdump_read_page`: on every exit — out-of-range or excluded frame,
unreadable descriptor, wrong raw size, unreadable data, every compression
method whether compiled in or not, failing or succeeding decompression —
nothing stays held (the page-cache entry belongs to the caller) -/
theorem diskdumpReadPage_balanced (cfg : Cfg) (pol : Policy) (pfn : Nat) (pg : PageInfo) (orc : List Ext) (L : List Res) :
    Runs (diskdumpReadPage cfg pol pfn pg orc).evs L L :=
  diskdumpReadPage_runs cfg L pol pfn pg orc

/-- `cache_get_page`: success holds the page-cache entry, failure nothing -/
theorem cacheGetPage_balanced (cfg : Cfg) (pol : Policy) (key pfn : Nat) (pg : PageInfo) (orc : List Ext) (L : List Res) :
    Runs (cacheGetPage cfg pol key pfn pg orc).evs L
      ((match (cacheGetPage cfg pol key pfn pg orc).res with
        | .ok _ => [Res.pin .pc key]
        | _ => []) ++ L) := by
  have h := cacheGetPage_runs cfg L pol key pfn pg orc
  generalize (cacheGetPage cfg pol key pfn pg orc).res = r at h ⊢
  cases r <;> exact h

/-- `diskdump_get_page` (early refusal of excluded frames, else `cache_get_page`):
success holds the page-cache entry, failure nothing -/
theorem diskdumpGetPage_balanced (cfg : Cfg) (pol : Policy) (key pfn : Nat) (pg : PageInfo) (orc : List Ext) (L : List Res) :
    Runs (diskdumpGetPage cfg pol key pfn pg orc).evs L
      ((match (diskdumpGetPage cfg pol key pfn pg orc).res with
        | .ok _ => [Res.pin .pc key]
        | _ => []) ++ L) := by
  have h := diskdumpGetPage_runs cfg L pol key pfn pg orc
  generalize (diskdumpGetPage cfg pol key pfn pg orc).res = r at h ⊢
  cases r <;> exact h

/-- `read_locked`: after the call, successful, partial or failed, no entry is
referenced on its behalf -/
theorem readLocked_balanced (cfg : Cfg) (pages : Nat → PageInfo) (as fuel : Nat) (pol : Policy) (addr remain : Nat)
    (orc : List Ext) (L : List Res) :
    Runs (readLocked cfg pages as fuel pol addr remain orc).evs L L :=
  readLocked_runs cfg L pages as fuel pol addr remain orc

/-- `addrxlat_get_page`: success lends the descriptor and the page entry,
failure (allocation or page) leaves nothing behind -/
theorem addrxlatGetPage_balanced (cfg : Cfg) (pol : Policy) (as addr : Nat) (pages : Nat → PageInfo) (orc : List Ext) (L : List Res) :
    Runs (addrxlatGetPage cfg pol as addr pages orc).evs L
      ((match (addrxlatGetPage cfg pol as addr pages orc).res with
        | .ok _ => lentRes cfg as addr
        | _ => []) ++ L) := by
  have h := addrxlatGetPage_runs cfg L pol as addr pages orc
  generalize (addrxlatGetPage cfg pol as addr pages orc).res = r at h ⊢
  cases r <;> exact h

/-- `addrxlat_put_page` returns exactly what `addrxlat_get_page` lent -/
theorem addrxlatPage_roundtrip (cfg : Cfg) (as addr : Nat) (L : List Res) :
    Runs (addrxlatPutPage cfg as addr) (lentRes cfg as addr ++ L) L :=
  addrxlatPutPage_runs cfg L as addr

/-! ## sessions: any sequence of calls -/

inductive Call
  | read (as addr len : Nat)
  | getpage (as addr : Nat)
  | putpage (as addr : Nat)

/-- everything lent to libaddrxlat's read cache -/
def lentAll (cfg : Cfg) : List (Nat × Nat) → List Res
  | [] => []
  | p :: t => lentRes cfg p.1 p.2 ++ lentAll cfg t

/-- a session: reads, pages taken through `get_page` and given back through
`put_page` in any order (a page that is not lent is not given back); returns
the trace and the pages still lent -/
def session (cfg : Cfg) (pages : Nat → PageInfo) : List Call → Policy → List (Nat × Nat) → List Ext → List Ev × List (Nat × Nat)
  | [], _, lent, _ => ([], lent)
  | .read as addr len :: cs, pol, lent, orc =>
      let out := readLocked cfg pages as len pol addr len orc
      let pol' := match out.res with
        | .ok (_, p) => p
        | _ => polAfterErr pol
      let rest := session cfg pages cs pol' lent out.orc
      (out.evs ++ rest.1, rest.2)
  | .getpage as addr :: cs, pol, lent, orc =>
      let out := addrxlatGetPage cfg pol as addr pages orc
      match out.res with
      | .ok p =>
          let rest := session cfg pages cs p ((as, addr) :: lent) out.orc
          (out.evs ++ rest.1, rest.2)
      | _ =>
          let rest := session cfg pages cs (polAfterErr pol) lent out.orc
          (out.evs ++ rest.1, rest.2)
  | .putpage as addr :: cs, pol, lent, orc =>
      if (as, addr) ∈ lent then
        let rest := session cfg pages cs pol (lent.erase (as, addr)) orc
        (addrxlatPutPage cfg as addr ++ rest.1, rest.2)
      else session cfg pages cs pol lent orc

theorem lentAll_perm (cfg : Cfg) {a b : List (Nat × Nat)} (h : a.Perm b) : (lentAll cfg a).Perm (lentAll cfg b) := by
  induction h with
  | nil => exact .refl _
  | cons x _ ih => exact ih.append_left _
  | swap x y l => exact List.perm_append_comm_assoc _ _ _
  | trans _ _ ih1 ih2 => exact ih1.trans ih2

/-- after any sequence of calls, with any outcome of each, the library holds
exactly the pages that are currently lent — in particular nothing once every
lent page has been given back -/
theorem session_balanced (cfg : Cfg) (pages : Nat → PageInfo) (cs : List Call) (pol : Policy)
    (lent : List (Nat × Nat)) (orc : List Ext) (L : List Res) :
    Runs (session cfg pages cs pol lent orc).1 (lentAll cfg lent ++ L)
      (lentAll cfg (session cfg pages cs pol lent orc).2 ++ L) := by
  induction cs generalizing pol lent orc with
  | nil => exact Runs.nil _
  | cons c cs ih =>
    cases c with
    | read as addr len =>
      simp only [session]
      exact Runs.append (readLocked_runs cfg _ pages as len pol addr len orc) (ih _ _ _)
    | getpage as addr =>
      simp only [session]
      have hg := addrxlatGetPage_runs cfg (lentAll cfg lent ++ L) pol as addr pages orc
      generalize addrxlatGetPage cfg pol as addr pages orc = out at hg ⊢
      rcases out with ⟨p | s | _, e, o⟩
      · have := ih p ((as, addr) :: lent) o
        rw [lentAll, List.append_assoc] at this
        exact Runs.append hg this
      · exact Runs.append hg (ih _ _ _)
      · exact Runs.append hg (ih _ _ _)
    | putpage as addr =>
      simp only [session]
      split
      · rename_i hmem
        have hp := addrxlatPutPage_runs cfg (lentAll cfg (lent.erase (as, addr)) ++ L) as addr
        have hperm := (lentAll_perm cfg (List.perm_cons_erase hmem)).append_right L
        rw [lentAll, List.append_assoc] at hperm
        exact Runs.append (hp.perm_left hperm.symm) (ih _ _ _)
      · exact ih _ _ _


/-! ## `fcache_get_fb` and the Xen table scan -/

/-- `fcache_get_fb`: success holds the returned entry — nothing when the data
went to the bounce buffer (the entry looked up first has been released) —,
every failure (lookup, or any round of the read into the bounce buffer) holds nothing -/
theorem fcacheGetFb_balanced (cfg : Cfg) (pol : Policy) (fidx pos sz : Nat) (orc : List Ext) (L : List Res) :
    Runs (fcacheGetFb cfg pol fidx pos sz orc).evs L
      ((match (fcacheGetFb cfg pol fidx pos sz orc).res with
        | .ok (r, _) => fbRes r
        | _ => []) ++ L) := by
  have h := fcacheGetFb_runs cfg L pol fidx pos sz orc
  generalize (fcacheGetFb cfg pol fidx pos sz orc).res = r at h ⊢
  cases r <;> exact h

/-- get followed by `fcache_put` returns to the start ledger, bounce buffer or not -/
theorem fcacheGetFb_roundtrip (cfg : Cfg) (pol : Policy) (fidx pos sz : Nat) (orc : List Ext) (L : List Res)
    (r : Option Fce) (p : Policy) (h : (fcacheGetFb cfg pol fidx pos sz orc).res = .ok (r, p)) :
    Runs ((fcacheGetFb cfg pol fidx pos sz orc).evs ++ fcachePut r) L L := by
  have hg : Runs _ L (fbRes r ++ L) := h ▸ fcacheGetFb_runs cfg L pol fidx pos sz orc
  exact Runs.append hg (fcachePut_runs L r)

/-- the table scan of `make_xen_pfn_map_auto/_nonauto`: whatever the alignment of
the table (any number of records straddling entry boundaries), whichever read
fails and whichever record is rejected, the scan ends holding nothing.

A `stuck` scan has an empty trace and still holds `st.cur`, hence `hns`
(`xenMapScan_stuck_keeps`); `xenMapScan_balanced_total` is the form without it. -/
theorem xenMapScan_balanced (cfg : Cfg) (entsz : Nat) (addOk : Nat → Bool) (n k : Nat) (pol : Policy) (pos : Nat)
    (st : ScanSt) (orc : List Ext) (L : List Res)
    (hns : (xenMapScan cfg entsz addOk n k pol pos st orc).res ≠ .stuck) :
    Runs (xenMapScan cfg entsz addOk n k pol pos st orc).evs (fbRes st.cur ++ L) L := by
  have h := xenMapScan_runs cfg L entsz addOk n k pol pos st orc
  generalize (xenMapScan cfg entsz addOk n k pol pos st orc).res = r at h hns
  cases r with
  | ok p => exact h
  | err s => exact h
  | stuck => exact absurd rfl hns

/-- the same for every outcome, `stuck` included: a stuck scan has done nothing,
so it still holds the entry it started with — and only then is anything held -/
theorem xenMapScan_balanced_total (cfg : Cfg) (entsz : Nat) (addOk : Nat → Bool) (n k : Nat) (pol : Policy) (pos : Nat)
    (st : ScanSt) (orc : List Ext) (L : List Res) :
    Runs (xenMapScan cfg entsz addOk n k pol pos st orc).evs (fbRes st.cur ++ L)
      ((match (xenMapScan cfg entsz addOk n k pol pos st orc).res with
        | .stuck => fbRes st.cur
        | _ => []) ++ L) := by
  have h := xenMapScan_runs cfg L entsz addOk n k pol pos st orc
  generalize (xenMapScan cfg entsz addOk n k pol pos st orc).res = r at h ⊢
  cases r <;> exact h

/-- a scan that starts with no entry held (as `make_xen_pfn_map_*` does: `fce.cache = NULL`)
ends holding nothing on every outcome — no hypothesis needed then -/
theorem xenMapScan_balanced_fresh (cfg : Cfg) (entsz : Nat) (addOk : Nat → Bool) (n k : Nat) (pol : Policy) (pos : Nat)
    (left : Nat) (orc : List Ext) (L : List Res) :
    Runs (xenMapScan cfg entsz addOk n k pol pos ⟨none, left⟩ orc).evs L L := by
  have h := xenMapScan_runs cfg L entsz addOk n k pol pos ⟨none, left⟩ orc
  generalize (xenMapScan cfg entsz addOk n k pol pos ⟨none, left⟩ orc).res = r at h
  cases r <;> exact h

/-! ## SADUMP probe: the magic-number scan -/

/-- `verify_magic_number`: whatever the file holds (`cont`), wherever it ends (the next
entry cannot be fetched, or holds fewer than four bytes), whichever access path is used and
whichever fetch fails, every file-cache entry obtained has been given back exactly once when
the function returns: nothing is held afterwards, nothing is given back twice (the run of
the events is defined on the ledger). -/
theorem verifyMagic_balanced (cfg : Cfg) (fidx : Nat) (cont : Nat → Bool) (fuel : Nat) (pol : Policy) (pos : Nat)
    (orc : List Ext) (L : List Res) :
    Runs (verifyMagic cfg fidx cont fuel pol pos orc).evs L L :=
  verifyMagic_runs cfg L fidx cont fuel pol pos orc

/-- the loop alone, entered with entry `f` held: it ends with nothing held on every outcome
(`stuck`: the oracle does not fit; nothing has happened then and `f` is still held) -/
theorem magicLoop_balanced (cfg : Cfg) (fidx : Nat) (cont : Nat → Bool) (fuel k : Nat) (pol : Policy) (pos : Nat)
    (f : Fce) (left : Nat) (orc : List Ext) (L : List Res)
    (hns : (magicLoop cfg fidx cont fuel k pol pos f left orc).res ≠ .stuck) :
    Runs (magicLoop cfg fidx cont fuel k pol pos f left orc).evs (Res.pin f.c f.key :: L) L := by
  have h := magicLoop_runs cfg L fidx cont fuel k pol pos f left orc
  generalize (magicLoop cfg fidx cont fuel k pol pos f left orc).res = r at h hns
  cases r with
  | ok p => exact h
  | err s => exact h
  | stuck => exact absurd rfl hns

/-! ## libaddrxlat's read cache and the callback records -/

/-- `get_cache_buf`: reuse, eviction, successful or failing fetch — afterwards the
library holds exactly what the read cache's slots say -/
theorem getCacheBuf_balanced (cfg : Cfg) (pol : Policy) (rc : RdCache) (as addr : Nat) (pages : Nat → PageInfo)
    (orc : List Ext) (L : List Res) (hwf : rc.WF) :
    Runs (getCacheBuf cfg pol rc as addr pages orc).1.evs (rcRes cfg rc.slots ++ L)
      (rcRes cfg (getCacheBuf cfg pol rc as addr pages orc).2.slots ++ L)
    ∧ (getCacheBuf cfg pol rc as addr pages orc).2.WF :=
  getCacheBuf_runs cfg L pol rc as addr pages orc hwf

/-- `cleanup_cache` gives back every page the read cache holds -/
theorem cleanupCache_balanced (cfg : Cfg) (slots : List (Option Page)) (L : List Res) :
    Runs (cleanupCache cfg slots) (rcRes cfg slots ++ L) L :=
  cleanupCache_runs cfg L slots

/-- `addrxlat_ctx_add_cb` holds the new record on success and nothing on failure -/
theorem ctxAddCb_balanced (cbSize : Nat) (x : AxCtx) (id : Nat) (orc : List Ext) (L : List Res) :
    Runs (ctxAddCb cbSize x id orc).1.evs (cbRes cbSize x.cbs ++ L) (cbRes cbSize (ctxAddCb cbSize x id orc).2.cbs ++ L)
    ∧ (ctxAddCb cbSize x id orc).2.rc = x.rc :=
  ctxAddCb_runs L cbSize x id orc

/-- removing a callback record — the topmost one or one below other records —
gives back every page of the read cache and one record's memory: afterwards no
page is lent through a record that no longer exists -/
theorem ctxDelCb_balanced (cfg : Cfg) (cbSize : Nat) (x : AxCtx) (id : Nat) (L : List Res) (h : id ∈ x.cbs) :
    Runs (ctxDelCb cfg cbSize x id).1 (rcRes cfg x.rc.slots ++ cbRes cbSize x.cbs ++ L)
      (cbRes cbSize (ctxDelCb cfg cbSize x id).2.cbs ++ L)
    ∧ rcRes cfg (ctxDelCb cfg cbSize x id).2.rc.slots = []
    ∧ ((ctxDelCb cfg cbSize x id).2.rc.WF ↔ x.rc.WF) :=
  ⟨ctxDelCb_runs cfg L cbSize x id h, ctxDelCb_slots_empty cfg h, ctxDelCb_wf_iff cfg cbSize x id⟩

/-- calls on a translation context -/
inductive AxCall
  | axread (as addr : Nat)     -- a read through `get_cache_buf`
  | addcb (id : Nat)
  | delcb (id : Nat)
  | read (as addr len : Nat)   -- `kdump_read` in between

/-- a session on a dump's translation context: returns the trace and the context afterwards -/
def axSession (cfg : Cfg) (cbSize : Nat) (pages : Nat → PageInfo) : List AxCall → Policy → AxCtx → List Ext → List Ev × AxCtx
  | [], _, x, _ => ([], x)
  | .axread as addr :: cs, pol, x, orc =>
      let r := getCacheBuf cfg pol x.rc as addr pages orc
      let pol' := match r.1.res with
        | .ok p => p
        | _ => polAfterErr pol
      let rest := axSession cfg cbSize pages cs pol' { x with rc := r.2 } r.1.orc
      (r.1.evs ++ rest.1, rest.2)
  | .addcb id :: cs, pol, x, orc =>
      let r := ctxAddCb cbSize x id orc
      let rest := axSession cfg cbSize pages cs pol r.2 r.1.orc
      (r.1.evs ++ rest.1, rest.2)
  | .delcb id :: cs, pol, x, orc =>
      let r := ctxDelCb cfg cbSize x id
      let rest := axSession cfg cbSize pages cs pol r.2 orc
      (r.1 ++ rest.1, rest.2)
  | .read as addr len :: cs, pol, x, orc =>
      let out := readLocked cfg pages as len pol addr len orc
      let pol' := match out.res with
        | .ok (_, p) => p
        | _ => polAfterErr pol
      let rest := axSession cfg cbSize pages cs pol' x out.orc
      (out.evs ++ rest.1, rest.2)

/-- after any sequence of reads through the read cache, record additions and
removals (in any order, also of records that are not on top) and plain reads,
with any outcome of each, the library holds exactly the pages in the read
cache's slots and the records on the stack -/
theorem axSession_balanced (cfg : Cfg) (cbSize : Nat) (pages : Nat → PageInfo) (cs : List AxCall) (pol : Policy)
    (x : AxCtx) (orc : List Ext) (L : List Res) (hwf : x.rc.WF) :
    Runs (axSession cfg cbSize pages cs pol x orc).1 (rcRes cfg x.rc.slots ++ cbRes cbSize x.cbs ++ L)
      (rcRes cfg (axSession cfg cbSize pages cs pol x orc).2.rc.slots ++ cbRes cbSize (axSession cfg cbSize pages cs pol x orc).2.cbs ++ L) := by
  induction cs generalizing pol x orc with
  | nil => exact Runs.nil _
  | cons c cs ih =>
    cases c with
    | axread as addr =>
      simp only [axSession]
      have hg := getCacheBuf_runs cfg (cbRes cbSize x.cbs ++ L) pol x.rc as addr pages orc hwf
      have h1 := hg.1
      simp only [← List.append_assoc] at h1
      exact Runs.append h1 (ih _ _ _ hg.2)
    | addcb id =>
      simp only [axSession]
      have hg := ctxAddCb_runs L cbSize x id orc
      refine Runs.append ?_ (ih _ _ _ (hg.2 ▸ hwf))
      rw [hg.2, List.append_assoc, List.append_assoc]
      exact hg.1.frame_left _
    | delcb id =>
      simp only [axSession]
      have hd := ctxDelCb_step cfg L cbSize x id hwf
      exact Runs.append hd.1 (ih _ _ _ hd.2)
    | read as addr len =>
      simp only [axSession]
      exact Runs.append (readLocked_runs cfg _ pages as len pol addr len orc) (ih _ _ _ hwf)

/-- a session that ends with a removal: the context is the one the removal leaves -/
theorem axSession_snoc_delcb (cfg : Cfg) (cbSize : Nat) (pages : Nat → PageInfo) (cs : List AxCall) (pol : Policy)
    (x : AxCtx) (orc : List Ext) (id : Nat) :
    (axSession cfg cbSize pages (cs ++ [.delcb id]) pol x orc).2 =
      (ctxDelCb cfg cbSize (axSession cfg cbSize pages cs pol x orc).2 id).2 := by
  induction cs generalizing pol x orc with
  | nil => simp only [List.nil_append, axSession]
  | cons c cs ih =>
    cases c <;> simp only [List.cons_append, axSession, ih]

/-- once a record of the stack has been removed at the end of a session, nothing is lent -/
theorem axSession_delcb_last (cfg : Cfg) (cbSize : Nat) (pages : Nat → PageInfo) (cs : List AxCall) (pol : Policy)
    (x : AxCtx) (orc : List Ext) (id : Nat) (hwf : x.rc.WF)
    (h : id ∈ (axSession cfg cbSize pages cs pol x orc).2.cbs) :
    rcRes cfg (axSession cfg cbSize pages (cs ++ [.delcb id]) pol x orc).2.rc.slots = [] := by
  -- `hwf` is not needed: `addrxlat_ctx_del_cb` empties every slot whatever the ring looks like
  have _ := hwf
  rw [axSession_snoc_delcb]
  exact ctxDelCb_slots_empty cfg h

/-! ## concrete traces -/

def cfg0 : Cfg := ⟨4096, 4194304, 100000, 32, 104, 2, 4096, 16, false, false, true, true⟩

/-- three read-cache entries that are not adjacent in memory: the chunk is
copied, the entry array is freed during the switch -/
example : (fcacheGetChunk cfg0 .never 9000 0 4000
    [.alloc true, .entMiss 1000, .io true, .entMiss 50000, .io true, .alloc true, .entHit (some 9000), .entHit (some 9500)]).evs =
    [.malloc .fces 128 true, .acq .fb 0, .pread 0 true, .ins .fb 0, .acq .fb 4096, .pread 4096 true, .ins .fb 4096,
     .malloc .data 9000 true, .put .fb 0, .free .fces 128, .put .fb 4096, .acq .fb 8192, .put .fb 8192,
     .acq .fb 12288, .put .fb 12288] := by
  decide

/-- the ledger run of that trace ends with the copy buffer only -/
example : runEvs (fcacheGetChunk cfg0 .never 9000 0 4000
    [.alloc true, .entMiss 1000, .io true, .entMiss 50000, .io true, .alloc true, .entHit (some 9000), .entHit (some 9500)]).evs [] =
    some [.mem .data 9000] := by
  decide

/-- the error exit after the switch (third entry unreadable): nothing is held -/
example : runEvs (fcacheGetChunk cfg0 .never 9000 0 4000
    [.alloc true, .entMiss 1000, .io true, .entMiss 50000, .io true, .alloc true, .entMiss 7, .io false]).evs [] =
    some [] := by
  decide

/-- an LZO page in a build without LZO: the chunk is released before NOTIMPL -/
example : runEvs (diskdumpReadPage cfg0 .never 3 ⟨some 16384, 20480, 300, 2, 0⟩
    [.entHit (some 500), .entMiss 800, .io true]).evs [.pin .pc 12289] = some [.pin .pc 12289] := by
  decide

/-- that trace without the release of the chunk does not balance: the read-cache entry stays held -/
example : runEvs [.acq .fb 16384, .put .fb 16384, .acq .fb 20480, .pread 20480 true, .ins .fb 20480] [] =
    some [.pin .fb 20480] := by
  decide

/-- giving back an entry twice is rejected by the ledger -/
example : runEvs [.acq .fb 0, .put .fb 0, .put .fb 0] [] = none := by
  decide

/-- a session with a failing and a succeeding `get_page` and a late `put_page` -/
example : (session cfg0 (fun _ => ⟨none, 0, 0, 0, 0⟩) [.getpage 1 4096, .getpage 1 8192, .read 1 4096 8, .putpage 1 8192]
    .never [] [.alloc true, .entMiss 5, .alloc true, .entHit (some 7), .entBusy]).2 = [] := by
  decide


/-- a 16-byte record 8 bytes before the end of a read-cache entry: the entry is
released before the bytes are read into the bounce buffer, nothing stays held -/
example : (fcacheGetFb cfg0 .never 0 4088 16 [.entHit (some 1000), .entHit (some 1000), .entMiss 2000, .io true]).evs =
    [.acq .fb 0, .put .fb 0, .acq .fb 0, .put .fb 0, .acq .fb 4096, .pread 4096 true, .ins .fb 4096, .put .fb 4096] := by
  decide

/-- the same trace without the release of the first entry leaves it pinned -/
example : runEvs [.acq .fb 0, .acq .fb 0, .put .fb 0, .acq .fb 4096, .pread 4096 true, .ins .fb 4096, .put .fb 4096] [] =
    some [.pin .fb 0] := by
  decide

/-- a table of three 16-byte records at 4072: the second straddles the boundary -/
example : runEvs (xenMapScan cfg0 16 (fun _ => true) 3 0 .never 4072 ⟨none, 0⟩
    [.entHit (some 1000), .entHit (some 1000), .entHit (some 1000), .entHit (some 3000), .entHit (some 3000)]).evs [] = some [] := by
  decide

/-- a file that ends on a cache-entry boundary while the magic sequence still continues
(16-byte entries, 16-byte file, first magic number at 8): the held entry is released, the
fetch of the next entry fails with EOF, and nothing is released a second time -/
example : (verifyMagic ⟨16, 4194304, 16, 32, 104, 2, 4096, 16, false, false, true, true⟩ 0 (fun _ => true) 100 .never 8
    [.entHit (some 1000)]).evs = [.acq .fb 0, .put .fb 0] := by decide
example : (match (verifyMagic ⟨16, 4194304, 16, 32, 104, 2, 4096, 16, false, false, true, true⟩ 0 (fun _ => true) 100 .never 8
    [.entHit (some 1000)]).res with | .err .eof => true | _ => false) = true := by decide
/-- the sequence ends in the second entry: both entries released once -/
example : runEvs (verifyMagic ⟨16, 4194304, 64, 32, 104, 2, 4096, 16, false, false, true, true⟩ 0 (fun k => k < 3) 100 .never 8
    [.entHit (some 1000), .entMiss 2000, .io true]).evs [] = some [] := by decide

/-- why `xenMapScan_balanced` needs `hns`: an entry is held, a record has to be
fetched, and the oracle has no answer left — the model is `stuck` with an empty
trace, so the entry is still held and the ledger does not return to `[]` -/
theorem xenMapScan_stuck_keeps :
    (xenMapScan cfg0 16 (fun _ => true) 1 0 .never 0 ⟨some ⟨0, 0, .fb, 0⟩, 0⟩ []).evs = [] ∧
    ¬ Runs (xenMapScan cfg0 16 (fun _ => true) 1 0 .never 0 ⟨some ⟨0, 0, .fb, 0⟩, 0⟩ []).evs
        (fbRes (some ⟨0, 0, .fb, 0⟩) ++ []) [] := by
  have h : (xenMapScan cfg0 16 (fun _ => true) 1 0 .never 0 ⟨some ⟨0, 0, .fb, 0⟩, 0⟩ []).evs = [] := by decide
  refine ⟨h, ?_⟩
  rw [h]
  rintro ⟨M, h1, h2⟩
  simp only [runEvs, fbRes, List.append_nil, Option.some.injEq] at h1
  subst h1
  simpa using h2.length_eq

/-- a page fetched through the read cache, a record added on top, the LOWER
record removed: the page is given back although the removed record is not the top one -/
example : (axSession cfg0 64 (fun _ => ⟨some 100, 0, 0, 0, 0⟩) [.axread 1 4100, .addcb 1, .delcb 0] .never
    ⟨rcInit 4, [0]⟩ [.alloc true, .entHit (some 7), .alloc true]) =
    ([.malloc .pio 104 true, .acq .pc 4097, .malloc .cb 64 true, .put .pc 4097, .free .pio 104, .free .cb 64],
     ⟨⟨[none, none, none, none], [3, 0, 1, 2]⟩, [1]⟩) := by
  decide

/-! ## the pin on the raw note blob of a derived attribute (`derived_attr_revalidate`) -/
open Kdf.Model.BlobPin in
/-- whatever the blob (absent, too short, any size) and whatever the register's offset and length, no pin is
    held when the call returns, and nothing is unpinned that was not pinned -/
theorem derivedRevalidate_balanced (raw : Option Nat) (off len : Nat) :
    net (derivedRevalidate raw off len).2 = 0 ∧ wellNested 0 (derivedRevalidate raw off len).2 = true := by
  unfold derivedRevalidate
  cases raw with
  | none => exact ⟨rfl, rfl⟩
  | some size =>
    dsimp only
    split
    · exact ⟨rfl, rfl⟩
    · split <;> exact ⟨rfl, rfl⟩

open Kdf.Model.BlobPin in
/-- a blob shorter than the register's end is reported as corrupt (and only then) -/
theorem derivedRevalidate_short (size off len : Nat) :
    (derivedRevalidate (some size) off len).1 = .corrupt ↔ off + len > size := by
  -- the first test decides
  unfold derivedRevalidate
  dsimp only
  split
  · simp [*]
  · split <;> simp [*]

end Kdf.Props.C15
