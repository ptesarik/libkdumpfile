import Kdf.Model.Dump
import Kdf.Lemmas.Pfn
import Kdf.Lemmas.PfnGetBits
import Kdf.Lemmas.Basic
/-! ELF page lookup (C01): the `last_load` shortcut finds what the scan finds, so the page does not depend on the
remembered segments; its pieces render to `specBytes`. -/
namespace Kdf.Lemmas.DumpElf
open Kdf.Model.Pfn Kdf.Model.Dump

/-- segments sorted by their key in the address space of the request, memory
extents disjoint, file-backed part inside the memory extent -/
def SegsWF (l : List LoadSeg) (kv : Bool) : Prop :=
  l.Pairwise (fun a b => a.key kv + a.memsz ≤ b.key kv) ∧ ∀ s ∈ l, s.filesz ≤ s.memsz

/-- address `a` lies in the memory (`mem = true`) or file-backed extent of a segment -/
def Backed (l : List LoadSeg) (kv mem : Bool) (a : Nat) : Prop :=
  ∃ s ∈ l, s.key kv ≤ a ∧ a < s.key kv + s.ext mem

/-- the byte the dump encodes for address `a`: the file byte of the segment
whose file-backed extent contains `a`, else zero -/
def specByte (l : List LoadSeg) (kv : Bool) (file : Nat → Nat) (a : Nat) : Nat :=
  match l.find? (fun s => decide (s.key kv ≤ a ∧ a < s.key kv + s.filesz)) with
  | some s => file (s.fileOffset + (a - s.key kv))
  | none => 0

/-- the array the lookup walks -/
def arrOf (sorted vsorted : List LoadSeg) (kv : Bool) : List LoadSeg := if kv then vsorted else sorted

open Kdf.Lemmas.Pfn (SegsSorted Hit findClosest_some findClosest_none)
open Kdf.Lemmas (getElem?_mid)

theorem pairwise_mem_trichotomy {α : Type} {R : α → α → Prop} {l : List α} (h : l.Pairwise R) {a b : α}
    (ha : a ∈ l) (hb : b ∈ l) : a = b ∨ R a b ∨ R b a := by
  induction h with
  | nil => cases ha
  | cons hx _ ih =>
    rw [List.mem_cons] at ha hb
    rcases ha with rfl | ha <;> rcases hb with rfl | hb
    · exact Or.inl rfl
    · exact Or.inr (Or.inl (hx _ hb))
    · exact Or.inr (Or.inr (hx _ ha))
    · exact ih ha hb

theorem seg_unique {l : List LoadSeg} {kv : Bool} (h : SegsWF l kv) {s x : LoadSeg} (hs : s ∈ l) (hx : x ∈ l)
    {a : Nat} (h1 : s.key kv ≤ a) (h2 : a < s.key kv + s.memsz) (h3 : x.key kv ≤ a)
    (h4 : a < x.key kv + x.memsz) : s = x := by
  rcases pairwise_mem_trichotomy h.1 hs hx with e | e | e
  · exact e
  · omega
  · omega

/-- in a sorted list, the first segment that ends at or after `p` is the one that contains `p` -/
theorem first_hit_inside {pre post : List Seg} {t s : Seg} {p l : Nat} (hs : SegsSorted (pre ++ t :: post))
    (hpre : ∀ x ∈ pre, ¬ Hit p x) (ht : Hit p t) (hl : (pre ++ t :: post)[l]? = some s)
    (h1 : p ≥ s.phys) (h2 : p - s.phys < s.size) : l = pre.length ∧ s = t := by
  rcases Nat.lt_trichotomy l pre.length with hlt | heq | hgt
  · rw [List.getElem?_append_left hlt] at hl
    exact absurd ⟨by omega, by omega⟩ (hpre s (List.mem_of_getElem? hl))
  · exact ⟨heq, Option.some.inj (hl.symm.trans (getElem?_mid pre t post l heq))⟩
  · rw [List.getElem?_append_right (Nat.le_of_lt hgt),
      show l - pre.length = (l - pre.length - 1) + 1 by omega, List.getElem?_cons_succ] at hl
    have := (List.pairwise_cons.mp (List.pairwise_append.mp hs).2.1).1 s (List.mem_of_getElem? hl)
    obtain ⟨t1, t2⟩ := ht
    omega

/-- the shortcut's answer is the linear search's answer -/
theorem findClosest_of_inside (segs : List Seg) (hs : SegsSorted segs) (l : Nat) (s : Seg)
    (hl : segs[l]? = some s) (p d : Nat) (h1 : p ≥ s.phys) (h2 : p - s.phys < s.size) :
    findClosest segs p d = some l := by
  cases hf : findClosest segs p d with
  | none =>
    rcases findClosest_none hf with hall | ⟨pre, t, post, rfl, hpre, ht, hfar⟩
    · exact absurd ⟨by omega, by omega⟩ (hall s (List.mem_of_getElem? hl))
    · cases (first_hit_inside hs hpre ht hl h1 h2).2
      omega
  | some i =>
    obtain ⟨pre, t, post, rfl, rfl, hpre, ht, -⟩ := findClosest_some hf
    rw [(first_hit_inside hs hpre ht hl h1 h2).1]

/-- segment `s` is non-empty and ends at or after `addr` -/
def LHit (kv mem : Bool) (addr : Nat) (s : LoadSeg) : Prop :=
  s.ext mem ≠ 0 ∧ addr ≤ s.key kv + s.ext mem - 1

/-- `s` is the first segment of `arr` that ends at or after `addr` -/
def FirstHit (arr : List LoadSeg) (kv mem : Bool) (addr : Nat) (s : LoadSeg) : Prop :=
  ∃ pre post, arr = pre ++ s :: post ∧ (∀ x ∈ pre, ¬ LHit kv mem addr x) ∧ LHit kv mem addr s

/-- no segment holds an address in `[addr, k)` -/
def NoneBelow (arr : List LoadSeg) (kv mem : Bool) (addr k : Nat) : Prop :=
  ∀ x ∈ arr, ∀ a, addr ≤ a → x.key kv ≤ a → a < x.key kv + x.ext mem → k ≤ a

/-- the scan without the shortcut -/
def scanSeg (arr : List LoadSeg) (kv mem : Bool) (addr dist : Nat) : Option LoadSeg :=
  match findClosest (toSegs arr kv mem) addr dist with
  | none => none
  | some i => arr[i]?

section
variable {arr : List LoadSeg} {kv mem : Bool} {addr dist : Nat}

theorem toSegs_split {pre post : List Seg} {t : Seg}
    (e : toSegs arr kv mem = pre ++ t :: post) (hpre : ∀ x ∈ pre, ¬ Hit addr x)
    (ht : Hit addr t) :
    ∃ s, FirstHit arr kv mem addr s ∧ t.phys = s.key kv ∧ arr[pre.length]? = some s := by
  unfold toSegs at e
  rw [List.map_eq_append_iff] at e
  obtain ⟨l1, l2, rfl, rfl, e⟩ := e
  rw [List.map_eq_cons_iff] at e
  obtain ⟨s, l2, rfl, rfl, rfl⟩ := e
  exact ⟨s, ⟨l1, l2, rfl, fun x hx => hpre _ (List.mem_map.mpr ⟨x, hx, rfl⟩), ht⟩, rfl,
    getElem?_mid l1 s l2 _ (List.length_map ..)⟩

variable (arr kv mem addr dist) in
theorem scanSeg_cases :
    (scanSeg arr kv mem addr dist = none ∧ ∀ x ∈ arr, ¬ LHit kv mem addr x) ∨
    ∃ s, FirstHit arr kv mem addr s ∧ scanSeg arr kv mem addr dist =
      if addr < s.key kv ∧ s.key kv - addr ≥ dist then none else some s := by
  unfold scanSeg
  rcases Kdf.Lemmas.Pfn.findClosest_first (toSegs arr kv mem) addr dist with
    ⟨e, hall⟩ | ⟨pre, t, post, e1, e3, e4, e5⟩
  · exact Or.inl ⟨by rw [e], fun x hx => hall _ (List.mem_map.mpr ⟨x, hx, rfl⟩)⟩
  · obtain ⟨s, hs, hk, hg⟩ := toSegs_split e1 e3 e4
    refine Or.inr ⟨s, hs, ?_⟩
    rw [e5, hk]
    by_cases hd : addr < s.key kv ∧ s.key kv - addr ≥ dist
    · rw [if_pos hd, if_pos hd]
    · rw [if_neg hd, if_neg hd, Nat.zero_add]
      exact hg

theorem FirstHit.spec {s : LoadSeg} (h : SegsWF arr kv)
    (hf : FirstHit arr kv mem addr s) :
    s ∈ arr ∧ LHit kv mem addr s ∧ NoneBelow arr kv mem addr (s.key kv) := by
  obtain ⟨pre, post, rfl, hpre, hl⟩ := hf
  refine ⟨List.mem_append_right _ (List.mem_cons_self ..), hl, ?_⟩
  intro x hx a ha h1 h2
  rw [List.mem_append, List.mem_cons] at hx
  rcases hx with hx | rfl | hx
  · exact absurd ⟨by omega, by omega⟩ (hpre x hx)
  · exact h1
  · have := (List.pairwise_append.mp h.1).2.1
    rw [List.pairwise_cons] at this
    have := this.1 x hx
    omega

theorem scanSeg_some (h : SegsWF arr kv) {s : LoadSeg}
    (hp : scanSeg arr kv mem addr dist = some s) :
    s ∈ arr ∧ s.ext mem ≠ 0 ∧ addr < s.key kv + s.ext mem ∧ (s.key kv ≤ addr ∨ s.key kv < addr + dist) ∧
    NoneBelow arr kv mem addr (s.key kv) := by
  rcases scanSeg_cases arr kv mem addr dist with ⟨e, -⟩ | ⟨s', hf, e⟩
  · cases hp.symm.trans e
  · rw [hp] at e
    split at e
    · cases e
    · rename_i hd
      cases e
      obtain ⟨hm, ⟨hl1, hl2⟩, hfirst⟩ := hf.spec h
      exact ⟨hm, hl1, by omega, by omega, hfirst⟩

theorem scanSeg_none (h : SegsWF arr kv)
    (hp : scanSeg arr kv mem addr dist = none) :
    ∀ a, addr ≤ a → a < addr + dist → ¬ Backed arr kv mem a := by
  intro a ha1 ha2 ⟨x, hx, h1, h2⟩
  rcases scanSeg_cases arr kv mem addr dist with ⟨-, hall⟩ | ⟨s, hf, e⟩
  · exact hall x hx ⟨by omega, by omega⟩
  · rw [hp] at e
    split at e
    · have := (hf.spec h).2.2 x hx a ha1 h1 h2
      omega
    · cases e

theorem scanSeg_of_contains (h : SegsWF arr kv) (dist : Nat)
    {s : LoadSeg} (hs : s ∈ arr) (h1 : s.key kv ≤ addr) (h2 : addr - s.key kv < s.ext mem) :
    scanSeg arr kv mem addr dist = some s := by
  obtain ⟨l, hl⟩ := List.getElem?_of_mem hs
  have hsorted : SegsSorted (toSegs arr kv mem) := by
    unfold SegsSorted toSegs
    rw [List.pairwise_map]
    refine h.1.imp_of_mem fun {a b} ha _ hab => ?_
    have : a.ext mem ≤ a.memsz := by cases mem; exact h.2 a ha; exact Nat.le_refl _
    show a.key kv + a.ext mem ≤ b.key kv
    omega
  unfold scanSeg
  rw [findClosest_of_inside _ hsorted l ⟨s.key kv, s.ext mem⟩ (by rw [toSegs, List.getElem?_map, hl]; rfl)
    addr dist h1 h2]
  exact hl

end

/-- `elf_get_page` without the remembered segments -/
def elfPageNoHint (sorted vsorted : List LoadSeg) (kv zx : Bool) (addr sz : Nat) : ElfPage :=
  match scanSeg (arrOf sorted vsorted kv) kv zx addr sz with
  | none => if kv then .needXlat else .nodata
  | some s =>
    if s.key kv ≤ addr ∧ s.filesz ≥ addr - s.key kv + sz then .chunk (s.fileOffset + addr - s.key kv)
    else
      match (elfReadLoop sorted vsorted kv (sz + 1) {} addr sz []).2 with
      | some ps => .pieces ps
      | none => .oob

section
variable (sorted vsorted : List LoadSeg) (kv : Bool) (h : SegsWF (arrOf sorted vsorted kv) kv)
include h

theorem findSeg_snd (mem : Bool) (last : ElfLast) (addr dist : Nat) :
    ∃ last', findSeg sorted vsorted last kv mem addr dist =
      (last', scanSeg (arrOf sorted vsorted kv) kv mem addr dist) := by
  refine ⟨(findSeg sorted vsorted last kv mem addr dist).1, Prod.ext rfl ?_⟩
  unfold findSeg scanSeg
  dsimp only
  split
  · -- the shortcut answered: its segment contains `addr`, so the scan finds the same one
    rename_i s hsh
    split at hsh
    · cases hsh
    · rename_i i _
      split at hsh
      · cases hsh
      · rename_i s' hs'
        split at hsh
        · rename_i hc
          cases hsh
          exact (scanSeg_of_contains h dist (List.mem_of_getElem? hs') hc.1 hc.2).symm
        · cases hsh
  · unfold arrOf
    cases findClosest (toSegs (if kv = true then vsorted else sorted) kv mem) addr dist with
    | none => rfl
    | some i => dsimp only; cases (if kv = true then vsorted else sorted)[i]? <;> rfl

theorem loop_snd_indep : ∀ (fuel : Nat) (last1 last2 : ElfLast) (addr rem : Nat) (acc : List Piece),
      (elfReadLoop sorted vsorted kv fuel last1 addr rem acc).2 =
        (elfReadLoop sorted vsorted kv fuel last2 addr rem acc).2 := by
  intro fuel
  induction fuel with
  | zero => intro last1 last2 addr rem acc; rfl
  | succ fuel ih =>
    intro last1 last2 addr rem acc
    rw [elfReadLoop, elfReadLoop]
    by_cases hrem : rem = 0
    · rw [if_pos hrem, if_pos hrem]
    · rw [if_neg hrem, if_neg hrem]
      obtain ⟨l1, e1⟩ := findSeg_snd sorted vsorted kv h true last1 addr rem
      obtain ⟨l2, e2⟩ := findSeg_snd sorted vsorted kv h true last2 addr rem
      rw [e1, e2]
      generalize scanSeg (arrOf sorted vsorted kv) kv true addr rem = o
      cases o with
      | none => rfl
      | some s =>
        simp only [apply_ite Prod.snd]
        rw [ih l1 l2]

theorem elfGetPage_snd (zx : Bool) (last : ElfLast) (addr sz : Nat) :
    (elfGetPage sorted vsorted last kv zx addr sz).2 = elfPageNoHint sorted vsorted kv zx addr sz := by
  unfold elfGetPage elfPageNoHint
  obtain ⟨l1, e1⟩ := findSeg_snd sorted vsorted kv h zx last addr sz
  rw [e1]
  generalize scanSeg (arrOf sorted vsorted kv) kv zx addr sz = o
  cases o with
  | none => rfl
  | some s =>
    simp only []
    split
    · rfl
    · rw [← loop_snd_indep sorted vsorted kv h (sz + 1) l1 {} addr sz []]
      generalize elfReadLoop sorted vsorted kv (sz + 1) l1 addr sz [] = r2
      obtain ⟨l2, o2⟩ := r2
      cases o2 <;> rfl

end

section
variable {arr : List LoadSeg} {kv : Bool}

theorem specByte_in (h : SegsWF arr kv) (file : Nat → Nat) {s : LoadSeg}
    (hs : s ∈ arr) {a : Nat} (h1 : s.key kv ≤ a) (h2 : a < s.key kv + s.filesz) :
    specByte arr kv file a = file (s.fileOffset + (a - s.key kv)) := by
  unfold specByte
  cases hf : arr.find? (fun s => decide (s.key kv ≤ a ∧ a < s.key kv + s.filesz)) with
  | none => exact absurd (decide_eq_true ⟨h1, h2⟩) (List.find?_eq_none.mp hf s hs)
  | some s' =>
    have hm := List.mem_of_find?_eq_some hf
    have hp := List.find?_some hf
    rw [decide_eq_true_eq] at hp
    have h3 := h.2 s hs
    have h4 := h.2 s' hm
    cases seg_unique h hs hm h1 (by omega) hp.1 (by omega)
    rfl

theorem specByte_out (file : Nat → Nat) {a : Nat}
    (hn : ∀ s ∈ arr, ¬ (s.key kv ≤ a ∧ a < s.key kv + s.filesz)) : specByte arr kv file a = 0 := by
  unfold specByte
  cases hf : arr.find? (fun s => decide (s.key kv ≤ a ∧ a < s.key kv + s.filesz)) with
  | none => rfl
  | some s' =>
    have hp := List.find?_some hf
    rw [decide_eq_true_eq] at hp
    exact absurd hp (hn s' (List.mem_of_find?_eq_some hf))

theorem specByte_below (h : SegsWF arr kv) (file : Nat → Nat) {addr k a : Nat}
    (hfirst : NoneBelow arr kv true addr k)
    (h1 : addr ≤ a) (h2 : a < k) : specByte arr kv file a = 0 := by
  apply specByte_out
  intro x hx hc
  have := h.2 x hx
  have := hfirst x hx a h1 hc.1 (show a < _ + x.memsz by omega)
  omega

theorem specByte_bss (h : SegsWF arr kv) (file : Nat → Nat) {s : LoadSeg}
    (hs : s ∈ arr) {a : Nat} (h1 : s.key kv + s.filesz ≤ a) (h2 : a < s.key kv + s.memsz) :
    specByte arr kv file a = 0 := by
  apply specByte_out
  intro x hx hc
  have := h.2 x hx
  cases seg_unique h hs hx (a := a) (by omega) h2 hc.1 (by omega)
  omega

/-- the `n` bytes the dump encodes from `addr` on -/
def specBytes (arr : List LoadSeg) (kv : Bool) (file : Nat → Nat) (addr n : Nat) : List Nat :=
  (List.range n).map (fun i => specByte arr kv file (addr + i))

variable (arr kv) in
theorem specBytes_add (file : Nat → Nat) (addr n m : Nat) :
    specBytes arr kv file addr (n + m) = specBytes arr kv file addr n ++ specBytes arr kv file (addr + n) m := by
  unfold specBytes
  rw [List.range_add, List.map_append, List.map_map]
  simp only [Function.comp_def, Nat.add_assoc]

theorem specBytes_zero {file : Nat → Nat} {addr n : Nat}
    (hz : ∀ a, addr ≤ a → a < addr + n → specByte arr kv file a = 0) :
    specBytes arr kv file addr n = List.replicate n 0 := by
  unfold specBytes
  rw [List.eq_replicate_iff]
  refine ⟨by rw [List.length_map, List.length_range], ?_⟩
  intro b hb
  obtain ⟨i, hi, rfl⟩ := List.mem_map.mp hb
  exact hz _ (Nat.le_add_right _ _) (Nat.add_lt_add_left (List.mem_range.mp hi) _)

theorem specBytes_in (h : SegsWF arr kv) (file : Nat → Nat) {s : LoadSeg} (hs : s ∈ arr) {a n : Nat}
    (h1 : s.key kv ≤ a) (h2 : ∀ i, i < n → a + i < s.key kv + s.filesz) :
    specBytes arr kv file a n = (List.range n).map fun i => file (s.fileOffset + a - s.key kv + i) := by
  refine List.map_congr_left fun i hi => ?_
  rw [specByte_in h file hs (a := a + i) (by omega) (h2 i (List.mem_range.mp hi))]
  congr 1
  omega

end

theorem renderPieces_append (file : Nat → Nat) : ∀ a b : List Piece,
    renderPieces file (a ++ b) = renderPieces file a ++ renderPieces file b
  | [], _ => rfl
  | .zero n :: a, b => by
    rw [List.cons_append, renderPieces, renderPieces, renderPieces_append file a b, List.append_assoc]
  | .file off n :: a, b => by
    rw [List.cons_append, renderPieces, renderPieces, renderPieces_append file a b, List.append_assoc]

theorem render_snoc_zero (file : Nat → Nat) (acc : List Piece) (n : Nat) :
    renderPieces file (acc ++ [.zero n]) = renderPieces file acc ++ List.replicate n 0 := by
  rw [renderPieces_append, renderPieces, renderPieces, List.append_nil]

theorem render_zero (file : Nat → Nat) (acc : List Piece) (n : Nat) :
    renderPieces file (if n > 0 then acc ++ [.zero n] else acc) = renderPieces file acc ++ List.replicate n 0 := by
  by_cases h : n > 0
  · rw [if_pos h, render_snoc_zero]
  · rw [if_neg h, Nat.eq_zero_of_not_pos h, List.replicate_zero, List.append_nil]

theorem render_file (file : Nat → Nat) (acc : List Piece) (off n : Nat) (c : Prop) [Decidable c]
    (hc : ¬ c → n = 0) :
    renderPieces file (if c then acc ++ [.file off n] else acc) =
      renderPieces file acc ++ (List.range n).map (fun i => file (off + i)) := by
  by_cases h : c
  · rw [if_pos h, renderPieces_append, renderPieces, renderPieces, List.append_nil]
  · rw [if_neg h, hc h, List.range_zero, List.map_nil, List.append_nil]

theorem min_sub_bounds {n r e a : Nat} (h : n = min r (e - a)) :
    n ≤ r ∧ (a + n ≤ e ∨ n = 0) ∧ (n = r ∨ e ≤ a + n) := by
  omega

section
variable (sorted vsorted : List LoadSeg) (kv : Bool) (h : SegsWF (arrOf sorted vsorted kv) kv)
include h

theorem loop_spec (file : Nat → Nat) : ∀ (fuel : Nat) (last : ElfLast) (addr rem : Nat) (acc : List Piece),
      rem < fuel →
      ∃ last' ps, elfReadLoop sorted vsorted kv fuel last addr rem acc = (last', some ps) ∧
        renderPieces file ps =
          renderPieces file acc ++ specBytes (arrOf sorted vsorted kv) kv file addr rem := by
  intro fuel
  induction fuel with
  | zero => intro last addr rem acc hf; exact absurd hf (Nat.not_lt_zero _)
  | succ fuel ih =>
    intro last addr rem acc hf
    rw [elfReadLoop]
    by_cases hrem : rem = 0
    · subst hrem
      rw [if_pos rfl]
      exact ⟨last, acc, rfl, (List.append_nil _).symm⟩
    · rw [if_neg hrem]
      obtain ⟨l1, e1⟩ := findSeg_snd sorted vsorted kv h true last addr rem
      rw [e1]
      cases hp : scanSeg (arrOf sorted vsorted kv) kv true addr rem with
      | none =>
        refine ⟨l1, _, rfl, ?_⟩
        rw [render_snoc_zero, specBytes_zero]
        intro a ha1 ha2
        apply specByte_out
        intro x hx hc
        have := h.2 x hx
        exact scanSeg_none h hp a ha1 ha2 ⟨x, hx, hc.1, show a < _ + x.memsz by omega⟩
      | some s =>
        obtain ⟨k1, -, k3, k4, k5⟩ := scanSeg_some h hp
        have k3 : addr < s.key kv + s.memsz := k3
        have hfm := h.2 s k1
        dsimp -zeta only
        extract_lets K gap acc1 addr1 rem1 pos fsz acc2 addr2 rem2 zsz
        -- `omega` splits on every disjunction in sight: each length is replaced by the linear facts about
        -- it, and a disjunction is dropped once the step that needs it is done
        have hK : K = s.key kv := rfl
        have hgap : gap ≤ rem ∧ K ≤ addr + gap ∧ (addr + gap = K ∨ gap = 0) := by
          simp only [gap]; split <;> omega
        clear k4
        obtain ⟨g1, g2, g3⟩ := hgap
        rw [if_neg (Nat.not_lt.mpr g1)]
        have hacc1 : renderPieces file acc1 =
            renderPieces file acc ++ specBytes (arrOf sorted vsorted kv) kv file addr gap := by
          rw [render_zero, specBytes_zero]
          intro a ha1 ha2
          exact specByte_below h file k5 ha1 (by omega)
        clear g3
        have haddr1 : addr1 = addr + gap := rfl
        have hrem1 : rem1 = rem - gap := rfl
        have hfsz : fsz = min rem1 (K + s.filesz - addr1) := by
          simp only [fsz]; split <;> omega
        obtain ⟨f1, f2, f3⟩ := min_sub_bounds hfsz
        clear hfsz
        have hacc2 : renderPieces file acc2 =
            renderPieces file acc1 ++ specBytes (arrOf sorted vsorted kv) kv file addr1 fsz := by
          rw [render_file file acc1 pos fsz _ (by omega), specBytes_in h file k1 (by omega) fun i hi => by omega]
        clear f2
        have haddr2 : addr2 = addr1 + fsz := rfl
        have hrem2 : rem2 = rem1 - fsz := rfl
        by_cases hr2 : rem2 > 0
        · rw [if_pos hr2]
          have hbss : K + s.filesz ≤ addr2 := by omega
          clear f3
          obtain ⟨z1, z2, z3⟩ := min_sub_bounds (show zsz = min rem2 (K + s.memsz - addr2) from rfl)
          obtain ⟨last', ps, e, r⟩ := ih l1 (addr2 + zsz) (rem2 - zsz) (acc2 ++ [Piece.zero zsz]) (by omega)
          clear z3
          refine ⟨last', ps, e, ?_⟩
          have hz : specBytes (arrOf sorted vsorted kv) kv file addr2 zsz = List.replicate zsz 0 :=
            specBytes_zero fun a ha1 ha2 => specByte_bss h file k1 (by omega) (by omega)
          clear z2
          rw [r, render_snoc_zero, ← hz, hacc2, hacc1, List.append_assoc, List.append_assoc, List.append_assoc,
            ← specBytes_add, ← specBytes_add, ← specBytes_add,
            show gap + (fsz + (zsz + (rem2 - zsz))) = rem by omega]
        · rw [if_neg hr2]
          clear f3
          refine ⟨l1, acc2, rfl, ?_⟩
          rw [hacc2, hacc1, List.append_assoc, ← specBytes_add, show gap + fsz = rem by omega]

theorem elfPageNoHint_spec (zx : Bool) (file : Nat → Nat) (addr sz : Nat) (hsz : 0 < sz) :
    (elfPageNoHint sorted vsorted kv zx addr sz = (if kv then ElfPage.needXlat else ElfPage.nodata) ∧
      ¬ ∃ a, addr ≤ a ∧ a < addr + sz ∧ Backed (arrOf sorted vsorted kv) kv zx a) ∨
    ((∃ a, addr ≤ a ∧ a < addr + sz ∧ Backed (arrOf sorted vsorted kv) kv zx a) ∧
      renderElf file sz (elfPageNoHint sorted vsorted kv zx addr sz) =
        some (specBytes (arrOf sorted vsorted kv) kv file addr sz)) := by
  unfold elfPageNoHint
  cases hp : scanSeg (arrOf sorted vsorted kv) kv zx addr sz with
  | none => exact Or.inl ⟨rfl, fun ⟨a, h1, h2, h3⟩ => scanSeg_none h hp a h1 h2 h3⟩
  | some s =>
    obtain ⟨k1, k2, k3, k4, k5⟩ := scanSeg_some h hp
    refine Or.inr ⟨?_, ?_⟩
    · by_cases hc : s.key kv ≤ addr
      · exact ⟨addr, Nat.le_refl _, by omega, s, k1, hc, k3⟩
      · exact ⟨s.key kv, by omega, by omega, s, k1, Nat.le_refl _, by omega⟩
    · dsimp only
      by_cases hch : s.key kv ≤ addr ∧ s.filesz ≥ addr - s.key kv + sz
      · rw [if_pos hch]
        exact congrArg some (specBytes_in h file k1 hch.1 fun i hi => by omega).symm
      · rw [if_neg hch]
        obtain ⟨last', ps, e, rd⟩ := loop_spec sorted vsorted kv h file (sz + 1) {} addr sz [] (Nat.lt_succ_self _)
        rw [e]
        exact congrArg some rd

end

end Kdf.Lemmas.DumpElf
