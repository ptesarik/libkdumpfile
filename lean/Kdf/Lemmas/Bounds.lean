import Kdf.Model.Bounds
/-! For each loop of `Kdf.Model.Bounds`: what a run may end in, proved by one induction over the fuel. -/
namespace Kdf.Lemmas.Bounds
open Kdf.Model.Bounds

/-- The proofs below walk the loop bodies with this, each branch under the condition selecting it. -/
theorem ite_of {α : Type} {P : α → Prop} {c : Prop} [Decidable c] {a b : α}
    (ha : c → P a) (hb : ¬ c → P b) : P (if c then a else b) := by
  by_cases h : c
  · rw [if_pos h]; exact ha h
  · rw [if_neg h]; exact hb h

/-! ## uncompress_rle -/

def RleGood (cap : Nat) : RleRes → Prop
  | .ok n out => out.length = n ∧ n ≤ cap
  | .err => True
  | .oob => False
  | .fuel => False

/-- Generalised induction over the fuel of `rleGo`.  Invariants:
* `remain ≤ cap`                  (the write position `cap - remain` is inside `dst`),
* `i ≤ src.length < f + i`        (each iteration advances `i` by at least one),
* `out.length = cap - remain`     (the bytes written so far). -/
theorem rleGo_good (src : List Nat) (cap : Nat) :
    ∀ (f i remain : Nat) (out : List Nat),
      remain ≤ cap → i ≤ src.length → src.length < f + i → out.length = cap - remain →
      RleGood cap (rleGo src cap f i remain out) := by
  intro f
  induction f with
  | zero => intro i remain out _ hi hm _; omega
  | succ f ih =>
    intro i remain out hr hi hm hl
    -- all three recursive calls: `k ≤ remain` bytes written, `i` advanced by `d ≥ 1` inside `src`
    have step : ∀ (d k : Nat) (l : List Nat), l.length = k → 0 < d → i + d ≤ src.length → k ≤ remain →
        RleGood cap (rleGo src cap f (i + d) (remain - k) (out ++ l)) := by
      intro d k l hk hd hid hkr
      exact ih _ _ _ (by omega) hid (by omega) (by rw [List.length_append]; omega)
    -- and writing them at `cap - remain` stays inside `dst`
    have room : ∀ k, k ≤ remain → cap - remain + k ≤ cap := fun k hk => by omega
    unfold rleGo
    refine ite_of (fun _ => ⟨hl, Nat.sub_le _ _⟩) fun h1 => ?_
    have hi1 : i < src.length := Nat.lt_of_not_le h1
    rw [List.getElem?_eq_getElem hi1]
    dsimp only
    refine ite_of (fun _ => ?_) fun _ => ?_
    · -- escape byte: a count follows
      refine ite_of (fun _ => trivial) fun h2 => ?_
      have hi2 : i + 1 < src.length := Nat.lt_of_not_le h2
      rw [List.getElem?_eq_getElem hi2]
      dsimp only
      refine ite_of (fun _ => ?_) fun _ => ?_
      · -- a run of `cnt` copies of the next byte
        refine ite_of (fun _ => trivial) fun h3 => ?_
        refine ite_of (fun _ => trivial) fun h4 => ?_
        have hi3 : i + 2 < src.length := Nat.lt_of_not_le h4
        have hk := Nat.le_of_not_lt h3
        rw [List.getElem?_eq_getElem hi3]
        dsimp only
        rw [if_neg (Nat.not_lt_of_le (room _ hk))]
        exact step 3 _ _ List.length_replicate (by decide) hi3 hk
      · -- count 0: a literal zero byte
        refine ite_of (fun _ => trivial) fun h3 => ?_
        have hk := Nat.pos_of_ne_zero h3
        rw [if_neg (Nat.not_le_of_lt (room 1 hk))]
        exact step 2 1 [0] rfl (by decide) hi2 hk
    · -- literal byte
      refine ite_of (fun _ => trivial) fun h3 => ?_
      have hk := Nat.pos_of_ne_zero h3
      rw [if_neg (Nat.not_le_of_lt (room 1 hk))]
      exact step 1 1 [src[i]] rfl (by decide) hi1 hk

theorem rle_good (src : List Nat) (cap : Nat) : RleGood cap (rle src cap) :=
  rleGo_good src cap _ 0 cap [] (Nat.le_refl _) (Nat.zero_le _) (Nat.lt_succ_self _)
    (Nat.sub_self cap).symm

/-! ## do_notes -/

theorem le_roundup4 (n : Nat) : n ≤ roundup4 n := by
  unfold roundup4; omega

def NoteOk (total : Nat) (n : Note) : Prop :=
  12 ≤ n.nameOff ∧ n.nameOff + n.namesz ≤ total ∧ n.descOff + n.descsz ≤ total

def NotesGood (total : Nat) : NotesRes → Prop
  | .done ns => ∀ n ∈ ns, NoteOk total n
  | .oob => False
  | .fuel => False

/-- Generalised induction over the fuel of `notesGo`.  Invariants:
* `p + size ≤ total ∨ size = 0`   (after the clamp the pointer may be past the end, but then the loop exits),
* `size / 12 < f`                 (each iteration takes at least 12 off `size`),
* every note already accumulated lies inside the buffer. -/
theorem notesGo_good (rd32 : Nat → Nat) (total : Nat) :
    ∀ (f p size : Nat) (acc : List Note),
      (p + size ≤ total ∨ size = 0) → size / 12 < f → (∀ n ∈ acc, NoteOk total n) →
      NotesGood total (notesGo rd32 total f p size acc) := by
  intro f
  induction f with
  | zero => intro p size acc _ hm _; omega
  | succ f ih =>
    intro p size acc hinv hm hacc
    unfold notesGo
    refine ite_of (fun _ => hacc) fun h1 => ?_
    refine ite_of (fun h2 => by omega) fun _ => ?_
    dsimp only
    have hn := le_roundup4 (rd32 p)
    generalize roundup4 (rd32 p) = rn at hn ⊢
    generalize roundup4 (rd32 (p + 4)) = rdsz
    refine ite_of (fun _ => hacc) fun h3 => ?_
    refine ite_of (fun h4 => by omega) fun _ => ?_
    have hacc' : ∀ n ∈ acc ++ [⟨rd32 (p + 8), p + 12, rd32 p, p + (12 + rn), rd32 (p + 4)⟩],
        NoteOk total n := by
      intro n hn'
      rcases List.mem_append.mp hn' with hn' | hn'
      · exact hacc n hn'
      · rw [List.mem_singleton.mp hn']
        show 12 ≤ p + 12 ∧ p + 12 + rd32 p ≤ total ∧ p + (12 + rn) + rd32 (p + 4) ≤ total
        omega
    -- the clamp of `size`: what is left behind the descriptor, or nothing
    by_cases h5 : rdsz ≤ size - (12 + rn)
    · rw [if_pos h5]; exact ih _ _ _ (by omega) (by omega) hacc'
    · rw [if_neg h5]; exact ih _ _ _ (Or.inr rfl) (by omega) hacc'

theorem notes_good (rd32 : Nat → Nat) (total : Nat) : NotesGood total (notes rd32 total) :=
  notesGo_good rd32 total _ 0 total [] (Or.inl (Nat.le_of_eq (Nat.zero_add _))) (Nat.lt_succ_self _)
    (fun _ hn => nomatch hn)

/-! ## diskdump: read_bitmap -/

def BmpGood (maxPfn : Nat) : DdRes → Prop
  | .req r => r.maxBitmapPfn = 8 * r.len ∧ r.maxPfn ≤ 8 * r.len ∧ r.maxPfn ≤ maxPfn ∧
      r.memOff ≤ r.off ∧ r.off + r.len ≤ r.descoff
  | .corrupt => True
  | .ovf => True

/-- The shape of both requests of `read_bitmap`. -/
theorem BmpGood.req (m off len descoff memOff : Nat) (h1 : memOff ≤ off) (h2 : off + len ≤ descoff) :
    BmpGood m (.req ⟨off, len, descoff, if m > len * 8 then len * 8 else m, len * 8, memOff⟩) := by
  refine ⟨Nat.mul_comm _ _, ?_, ?_, h1, h2⟩
  all_goals dsimp only; split <;> omega

theorem readBitmap_good (ps : Nat) (sub : Int) (blocks maxPfn : Nat) :
    BmpGood maxPfn (readBitmap ps sub blocks maxPfn) := by
  unfold readBitmap
  refine ite_of (fun _ => trivial) fun _ => ?_
  dsimp only
  refine ite_of (fun _ => trivial) fun _ => ite_of (fun _ => ?_) fun _ => ?_
  · -- the bitmap is twice as long as `max_pfn` needs: its second half is read
    refine ite_of (fun _ => trivial) fun _ => ?_
    refine .req _ _ _ _ _ (Nat.le_add_right _ _) ?_
    have : blocks / 2 * ps + blocks / 2 * ps ≤ blocks * ps := by
      rw [← Nat.add_mul]; exact Nat.mul_le_mul_right ps (by omega)
    exact Nat.add_assoc _ _ _ ▸ Nat.add_le_add_left this _
  · exact .req _ _ _ _ _ (Nat.le_refl _) (Nat.le_refl _)

/-! ## flatmap_file_init -/

def FlatGood (bound : Nat) : ScanRes → Prop
  | .ok segs => ∀ s ∈ segs, 0 < s.size ∧ (MDF_HEADER_SIZE + 16 : Int) ≤ s.flatoff + s.pos ∧
      s.flatoff + s.pos + s.size < bound
  | .fuel => False
  | .corrupt => True
  | .readerr => True

theorem flatGo_behind (rd : Nat → Option (Int × Int)) (bound : Nat)
    (hEOF : ∀ p, bound ≤ p → rd p = none ∨ rd p = some (0, 0))
    (f p : Nat) (acc : List Seg) (hp : bound ≤ p) : FlatGood bound (flatGo rd (f+1) p acc) := by
  unfold flatGo
  rcases hEOF p hp with h | h <;> rw [h] <;> trivial

/-- Every record advances `p` by at least 17 and behind `bound` the scan stops; the END record is
accepted only in front of `bound`, which bounds the segments of the result. -/
theorem flatGo_good (rd : Nat → Option (Int × Int)) (bound : Nat)
    (hEOF : ∀ p, bound ≤ p → rd p = none ∨ rd p = some (0, 0)) :
    ∀ (f p : Nat) (acc : List Seg), MDF_HEADER_SIZE ≤ p → bound ≤ p + 17 * f →
      (∀ s ∈ acc, 0 < s.size ∧ (MDF_HEADER_SIZE + 16 : Int) ≤ s.flatoff + s.pos ∧
        s.flatoff + s.pos + s.size ≤ p) →
      FlatGood bound (flatGo rd (f+1) p acc) := by
  have e : MDF_HEADER_SIZE = 4096 := rfl
  intro f
  induction f with
  | zero => intro p acc _ hb _; exact flatGo_behind rd bound hEOF 0 p acc (by omega)
  | succ f ih =>
    intro p acc hp hb hacc
    by_cases hpb : bound ≤ p
    · exact flatGo_behind rd bound hEOF _ p acc hpb
    · unfold flatGo
      cases rd p with
      | none => trivial
      | some ps =>
        obtain ⟨pos, size⟩ := ps
        dsimp only
        refine ite_of (fun _ s hs => ?_) fun _ => ?_
        · have := hacc s hs
          omega
        refine ite_of (fun _ => trivial) fun h2 => ?_
        refine ite_of (fun _ => trivial) fun h3 => ?_
        refine ite_of (fun _ => trivial) fun h4 => ?_
        refine ih _ _ (by omega) (by omega) ?_
        intro s hs
        rcases List.mem_append.mp hs with hs | hs
        · have := hacc s hs
          omega
        · rw [List.mem_singleton.mp hs]
          dsimp only
          omega

theorem flatScan_good (rd : Nat → Option (Int × Int)) (bound : Nat)
    (hEOF : ∀ p, bound ≤ p → rd p = none ∨ rd p = some (0, 0)) : FlatGood bound (flatScan rd bound) :=
  flatGo_good rd bound hEOF (bound / 17 + 1) MDF_HEADER_SIZE [] (Nat.le_refl _) (by omega)
    (fun _ hs => nomatch hs)

/-! ## flatmap_get_chunk_flat -/

theorem walkRanges_mem : ∀ (ranges : List (Nat × Int)) (off : Nat) (r : Nat × Int) (o : Nat),
    walkRanges ranges off = some (r, o) → r ∈ ranges := by
  intro ranges
  induction ranges with
  | nil => intro off r o h; cases h
  | cons x xs ih =>
    intro off r o h
    unfold walkRanges at h
    split at h
    · exact List.mem_cons_of_mem _ (ih _ _ _ h)
    · cases h; exact List.mem_cons_self

end Kdf.Lemmas.Bounds
