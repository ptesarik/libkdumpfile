import Kdf.Lemmas.CacheSt
/-!
Bridge between the concrete model (`Cache`, entry table as a list) and the abstract view
(`St`, `InvH`): `modEnt`, the invariant `Inv` in terms of `InvH`, `flush`, and the counting
argument (every buffer has exactly one owner).
-/
namespace Kdf.Lemmas.Cache
open Kdf.Model.Cache Kdf.Lemmas.CacheList

@[simp] theorem abs_cap (c : Cache) : (abs c).cap = c.cap := rfl
@[simp] theorem abs_ent (c : Cache) : (abs c).ent = c.ent := rfl
@[simp] theorem abs_U (c : Cache) : (abs c).U = c.U := rfl
@[simp] theorem abs_GB (c : Cache) : (abs c).GB = c.GB := rfl
@[simp] theorem abs_B (c : Cache) : (abs c).B = c.B := rfl
@[simp] theorem abs_P (c : Cache) : (abs c).P = c.P := rfl
@[simp] theorem abs_GP (c : Cache) : (abs c).GP = c.GP := rfl
@[simp] theorem abs_F (c : Cache) : (abs c).F = c.F := rfl

@[simp] theorem modEnt_cap (c : Cache) (i f) : (c.modEnt i f).cap = c.cap := rfl
@[simp] theorem modEnt_U (c : Cache) (i f) : (c.modEnt i f).U = c.U := rfl
@[simp] theorem modEnt_GB (c : Cache) (i f) : (c.modEnt i f).GB = c.GB := rfl
@[simp] theorem modEnt_B (c : Cache) (i f) : (c.modEnt i f).B = c.B := rfl
@[simp] theorem modEnt_P (c : Cache) (i f) : (c.modEnt i f).P = c.P := rfl
@[simp] theorem modEnt_GP (c : Cache) (i f) : (c.modEnt i f).GP = c.GP := rfl
@[simp] theorem modEnt_F (c : Cache) (i f) : (c.modEnt i f).F = c.F := rfl
@[simp] theorem modEnt_dprobe (c : Cache) (i f) : (c.modEnt i f).dprobe = c.dprobe := rfl
@[simp] theorem modEnt_len (c : Cache) (i f) : (c.modEnt i f).ents.length = c.ents.length := by
  simp [Cache.modEnt]

theorem ent_modEnt (c : Cache) (i : Nat) (f : Entry → Entry) (j : Nat) :
    (c.modEnt i f).ent j = if j = i ∧ i < c.ents.length then f (c.ent i) else c.ent j := by
  unfold Cache.ent Cache.modEnt
  simp only [List.getD_eq_getElem?_getD, List.getElem?_modify]
  by_cases hji : j = i
  · subst hji
    by_cases hlt : j < c.ents.length
    · simp [hlt]
    · simp [hlt]
  · have : ¬ i = j := fun e => hji e.symm
    simp [hji, this]

theorem ent_default (c : Cache) {i : Nat} (hi : c.ents.length ≤ i) : c.ent i = default := by
  unfold Cache.ent
  simp [List.getD_eq_getElem?_getD, List.getElem?_eq_none hi]

theorem abs_modEnt (c : Cache) {i : Nat} (f : Entry → Entry) (hi : i < c.ents.length) :
    abs (c.modEnt i f) = (abs c).setEnt i (f (c.ent i)) := by
  unfold abs St.setEnt
  simp only [modEnt_cap, modEnt_U, modEnt_GB, modEnt_B, modEnt_P, modEnt_GP, modEnt_F, St.mk.injEq,
    true_and, and_true]
  funext j
  simp [ent_modEnt, hi]

/-- `Inv` with the field `inflight_ref` guarded by `st` -/
def InvS (c : Cache) (st : Prop) : Prop := c.ents.length = 2 * c.cap ∧ InvH (abs c) [] [] st

theorem InvS.len {c : Cache} {st : Prop} (h : InvS c st) : c.ents.length = 2 * c.cap := h.1
theorem InvS.inv {c : Cache} {st : Prop} (h : InvS c st) : InvH (abs c) [] [] st := h.2

theorem InvS.weaken {c : Cache} {st st' : Prop} (h : InvS c st) (hst : st' → st) : InvS c st' :=
  ⟨h.1, { h.2 with inflight_ref := fun x => h.2.inflight_ref (hst x) }⟩

theorem live_nodup_of_part {c : Cache} (hp : (ring c ++ c.F).Perm (List.range (2 * c.cap))) :
    (live c).Nodup := by
  have hn : (ring c ++ c.F).Nodup := hp.nodup_iff.2 List.nodup_range
  rw [List.nodup_iff_count] at hn ⊢
  intro a
  have := hn a
  simp only [ring, live, List.count_append] at this ⊢
  omega

theorem inv_iff (c : Cache) : Inv c ↔ InvS c True := by
  -- field by field; `Inv` says "no buffer" with `hasData` and "distinct keys" with `Nodup`
  have hd : ∀ i, hasData c i = false ↔ (c.ent i).data = none := fun i => by simp [hasData, Cache.dataOf]
  constructor
  · intro h
    exact ⟨h.len, h.cap_pos, by simpa [ring] using h.part, h.bufs, h.live_data, fun i hi => (hd i).1 (h.ghost_nodata i hi),
      h.u_shape.imp fun u1 hu => hu.imp fun u2 hu => ⟨hu.1, fun i hi => (hd i).1 (hu.2.1 i hi), hu.2.2⟩,
      inj_on_of_nodup_map h.keys_nodup, h.cached_valid, h.inflight_invalid, h.ref_live, fun _ => h.inflight_ref⟩
  · rintro ⟨hlen, h⟩
    have hpart : (ring c ++ c.F).Perm (List.range (2 * c.cap)) := by simpa [ring] using h.part
    exact ⟨h.cap_pos, hlen, hpart, h.bufs, h.live_data, fun i hi => (hd i).2 (h.ghost_nodata i hi),
      h.u_shape.imp fun u1 hu => hu.imp fun u2 hu => ⟨hu.1, fun i hi => (hd i).2 (hu.2.1 i hi), hu.2.2⟩,
      nodup_map_of_inj_on (live_nodup_of_part hpart) h.keys_inj, h.cached_valid,
      h.inflight_invalid, h.ref_live, h.inflight_ref trivial⟩

theorem flush_ent (cap i : Nat) :
    (flush cap).ent i =
      if i < 2 * cap then ⟨0, .probe, 0, if i < cap then some i else none⟩ else default := by
  unfold Cache.ent flush
  simp only [List.getD_eq_getElem?_getD, List.getElem?_map]
  by_cases h : i < 2 * cap
  · simp [h]
  · simp [h]

theorem flush_refcnt (cap i : Nat) : ((flush cap).ent i).refcnt = 0 := by
  rw [flush_ent]; split <;> rfl

theorem flush_data (cap i : Nat) :
    ((flush cap).ent i).data = if i < cap then some i else none := by
  rw [flush_ent]
  by_cases h : i < 2 * cap
  · simp [h]
  · have : ¬ i < cap := by omega
    simp [h, this]; rfl

theorem invS_flush (cap : Nat) (hc : 0 < cap) (st : Prop) : InvS (flush cap) st := by
  refine ⟨by simp [flush], ?_⟩
  have hrange : List.range (2 * cap) = List.range cap ++ (List.range cap).map (fun x => cap + x) := by
    rw [← List.range_add]; congr 1; omega
  constructor
  · exact hc
  · show ((List.range (2 * cap)).reverse ++ [] ++ [] ++ [] ++ [] ++ [] ++ []).Perm _
    simp only [List.append_nil]
    exact List.reverse_perm _
  · show ([] ++ (List.range (2 * (flush cap).cap)).filterMap (fun i => ((flush cap).ent i).data)).Perm _
    have : (flush cap).cap = cap := rfl
    rw [this, List.nil_append, hrange, List.filterMap_append]
    have h1 : (List.range cap).filterMap (fun i => ((flush cap).ent i).data) = List.range cap := by
      rw [filterMap_congr' (g := some)]
      · simp
      · intro a ha; simp [flush_data, List.mem_range.1 ha]
    have h2 : ((List.range cap).map (fun x => cap + x)).filterMap (fun i => ((flush cap).ent i).data) = [] := by
      apply filterMap_none
      intro a ha
      simp only [List.mem_map, List.mem_range] at ha
      obtain ⟨x, _, rfl⟩ := ha
      simp [flush_data]
    rw [h1, h2, List.append_nil]
    exact List.Perm.refl _
  · intro i hi; simp [abs, flush] at hi
  · intro i hi; simp [abs, flush] at hi
  · refine ⟨((List.range cap).map (fun x => cap + x)).reverse, (List.range cap).reverse, ?_, ?_, ?_⟩
    · show (List.range (2 * cap)).reverse = _
      rw [hrange, List.reverse_append]
    · intro i hi
      simp only [List.mem_reverse, List.mem_map, List.mem_range] at hi
      obtain ⟨x, _, rfl⟩ := hi
      simp [flush_data]
    · intro i hi
      simp only [List.mem_reverse, List.mem_range] at hi
      simp [flush_data, hi]
  · intro i hi; simp [abs, flush] at hi
  · intro i hi; simp [abs, flush] at hi
  · intro i hi; simp [abs, flush] at hi
  · intro i _ hr; exact absurd (flush_refcnt cap i) hr
  · intro _ i hi; simp [abs, flush] at hi

theorem InvH.count {s : St} {st : Prop} (h : InvH s [] [] st) {u1 u2 : List Nat} (hU : s.U = u1 ++ u2)
    (hu1 : ∀ i ∈ u1, (s.ent i).data = none) (hu2 : ∀ i ∈ u2, (s.ent i).data.isSome = true) :
    u2.length + s.B.length + s.P.length + s.F.length = s.cap := by
  have hp := (h.part.filterMap (fun i => (s.ent i).data)).trans (by simpa using h.bufs)
  have hlen := hp.length_eq
  rw [hU] at hlen
  simp only [List.filterMap_append, List.length_append, List.length_range, List.filterMap_nil,
    List.length_nil] at hlen
  rw [filterMap_none hu1, length_filterMap_some hu2,
    filterMap_none (fun i hi => h.ghost_nodata i (by simp [hi])),
    filterMap_none (l := s.GP) (fun i hi => h.ghost_nodata i (by simp [hi])),
    length_filterMap_some (l := s.B) (fun i hi => h.live_data i (by simp [hi])),
    length_filterMap_some (l := s.P) (fun i hi => h.live_data i (by simp [hi])),
    length_filterMap_some (l := s.F) (fun i hi => h.live_data i (by simp [hi]))] at hlen
  simp only [List.length_nil] at hlen
  omega

theorem exists_of_filter_length_lt {l : List Nat} {p : Nat → Bool} (h : (l.filter p).length < l.length) :
    ∃ i ∈ l, p i = false := by
  apply Classical.byContradiction
  intro hn
  have : l.filter p = l := List.filter_eq_self.2 (fun a ha => by
    cases hp : p a with
    | true => rfl
    | false => exact absurd ⟨a, ha, hp⟩ hn)
  rw [this] at h
  omega

theorem exists_zero_ref (c : Cache) (h : c.pinned < c.B.length + c.P.length) :
    ∃ i ∈ c.B ++ c.P, c.refcnt i = 0 := by
  unfold Cache.pinned at h
  by_cases hB : (c.B.filter fun i => c.refcnt i ≠ 0).length < c.B.length
  · obtain ⟨i, hi, hp⟩ := exists_of_filter_length_lt hB
    exact ⟨i, by simp [hi], by simpa using hp⟩
  · have hP : (c.P.filter fun i => c.refcnt i ≠ 0).length < c.P.length := by
      have := List.length_filter_le (fun i => decide (c.refcnt i ≠ 0)) c.B
      omega
    obtain ⟨i, hi, hp⟩ := exists_of_filter_length_lt hP
    exact ⟨i, by simp [hi], by simpa using hp⟩

end Kdf.Lemmas.Cache
