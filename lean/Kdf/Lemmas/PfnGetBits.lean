import Kdf.Lemmas.PfnScan
import Kdf.Lemmas.PfnMaps
/-! Bulk retrieval: `setBits` / `clearBits`, the two folds, `findClosest`. -/
namespace Kdf.Lemmas.Pfn
open Kdf.Model.Pfn

theorem mask_s (k t : Nat) : tbL (2^k - 1) t = !decide (k ≤ t) := by
  rw [tbL_testBit, Nat.testBit_two_pow_sub_one, ← decide_not]
  exact decide_eq_decide.mpr (by omega)
theorem mask_lo (k : Nat) {t : Nat} (ht : t < 8) : tbL ((2^(k+1) - 1) % 256) t = decide (t ≤ k) := by
  rw [tbL_testBit, show 256 = 2^8 from rfl, Nat.testBit_mod_two_pow, Nat.testBit_two_pow_sub_one,
    decide_eq_true ht, Bool.true_and]
  exact decide_eq_decide.mpr (by omega)
theorem mask_hi {k : Nat} (hk : k < 8) {t : Nat} (ht : t < 8) : tbL (255 - (2^k - 1)) t = decide (k ≤ t) := by
  have : 2^k ≤ 2^8 := Nat.pow_le_pow_right Nat.two_pos (by omega)
  rw [tbL_compl (by omega) ht, mask_s, Bool.not_not]
theorem mask_255 {t : Nat} (ht : t < 8) : tbL 255 t = true := by
  rw [tbL_testBit, show 255 = 2^8 - 1 from rfl, Nat.testBit_two_pow_sub_one]
  exact decide_eq_true ht
theorem mask_nlo (k : Nat) {t : Nat} (ht : t < 8) :
    tbL (255 - (2^(k+1) - 1) % 256) t = !decide (t ≤ k) := by
  rw [tbL_compl (Nat.mod_lt _ (by omega)) ht, mask_lo k ht]

theorem or_byte {x y : Nat} (hx : x < 256) (hy : y < 256) : x ||| y < 256 :=
  Nat.or_lt_two_pow (n := 8) hx hy
theorem and_byte {x : Nat} (y : Nat) (hx : x < 256) : x &&& y < 256 :=
  Nat.lt_of_le_of_lt Nat.and_le_left hx

theorem ite_bool (P : Prop) [Decidable P] (x : Bool) : (x || decide P) = (if P then true else x) := by
  by_cases h : P <;> simp [h]
theorem ite_bool_and (P : Prop) [Decidable P] (x : Bool) : (x && !decide P) = (if P then false else x) := by
  by_cases h : P <;> simp [h]

theorem tbL_or_mask {b m t : Nat} {Q P : Prop} [Decidable Q] [Decidable P] (hm : tbL m t = decide Q)
    (hqp : Q ↔ P) : tbL (b ||| m) t = if P then true else tbL b t := by
  rw [tbL_testBit, Nat.testBit_or, ← tbL_testBit, ← tbL_testBit, hm, decide_eq_decide.mpr hqp, ite_bool]

theorem tbL_and_mask {b m t : Nat} {Q P : Prop} [Decidable Q] [Decidable P] (hm : tbL m t = !decide Q)
    (hqp : Q ↔ P) : tbL (b &&& m) t = if P then false else tbL b t := by
  rw [tbL_testBit, Nat.testBit_and, ← tbL_testBit, ← tbL_testBit, hm, decide_eq_decide.mpr hqp, ite_bool_and]

theorem modify_eq_mapIdx (buf : Bitmap) (k : Nat) (f : Nat → Nat) :
    buf.modify k f = buf.mapIdx fun j b => if j = k then f b else b := by
  apply List.ext_getElem (by rw [List.length_modify, List.length_mapIdx])
  intro j h1 h2
  rw [List.getElem_modify, List.getElem_mapIdx]
  by_cases h : k = j
  · rw [if_pos h, if_pos h.symm]
  · rw [if_neg h, if_neg (Ne.symm h)]

theorem mapIdx_bits (buf : Bitmap) (hb : BytesWF buf) (g : Nat → Nat → Nat) (P : Nat → Prop)
    [DecidablePred P] (v : Bool)
    (hg : ∀ j b, j < buf.length → b < 256 →
      g j b < 256 ∧ ∀ t, t < 8 → tbL (g j b) t = if P (j * 8 + t) then v else tbL b t) :
    (buf.mapIdx g).length = buf.length ∧ BytesWF (buf.mapIdx g) ∧
      ∀ i, i < buf.length * 8 → bitL (buf.mapIdx g) i = if P i then v else bitL buf i := by
  refine ⟨List.length_mapIdx, ?_, ?_⟩
  · intro b hb'
    obtain ⟨j, hj, rfl⟩ := List.getElem_of_mem hb'
    rw [List.getElem_mapIdx]
    rw [List.length_mapIdx] at hj
    exact (hg j _ hj (hb _ (List.getElem_mem _))).1
  · intro i hi
    have hj : i / 8 < buf.length := by omega
    rw [bitL_eq, bitL_eq, byteAt_getElem _ _ (by rw [List.length_mapIdx]; exact hj), byteAt_getElem _ _ hj,
      List.getElem_mapIdx, (hg _ _ hj (hb _ (List.getElem_mem _))).2 _ (by omega),
      show i / 8 * 8 + i % 8 = i by omega]

theorem setBits_spec (buf : Bitmap) (hb : BytesWF buf) (s e : Nat) (hse : s ≤ e) (he : e / 8 < buf.length) :
    ∃ buf', setBits buf s e = some buf' ∧ buf'.length = buf.length ∧ BytesWF buf' ∧
      ∀ i, i < buf.length * 8 → bitL buf' i = (if s ≤ i ∧ i ≤ e then true else bitL buf i) := by
  have hs : s % 8 < 8 := by omega
  have hm1 : 255 - (2 ^ (s % 8) - 1) < 256 := by omega
  have hm2 : (2 ^ (e % 8 + 1) - 1) % 256 < 256 := Nat.mod_lt _ (by omega)
  unfold setBits
  dsimp only
  by_cases h1 : s / 8 < e / 8
  · rw [if_pos h1, if_pos he]
    refine ⟨_, rfl, mapIdx_bits buf hb _ (fun i => s ≤ i ∧ i ≤ e) true ?_⟩
    intro j b _ hbj
    by_cases hjs : j = s / 8
    · rw [if_pos hjs]
      exact ⟨or_byte hbj hm1, fun t ht => tbL_or_mask (mask_hi hs ht) (by omega)⟩
    rw [if_neg hjs]
    by_cases hmid : s / 8 < j ∧ j < e / 8
    · rw [if_pos hmid]
      exact ⟨by omega, fun t ht => by rw [if_pos (by omega), mask_255 ht]⟩
    rw [if_neg hmid]
    by_cases hje : j = e / 8
    · rw [if_pos hje]
      exact ⟨or_byte hbj hm2, fun t ht => tbL_or_mask (mask_lo _ ht) (by omega)⟩
    · rw [if_neg hje]
      exact ⟨hbj, fun t ht => by rw [if_neg (by omega)]⟩
  · rw [if_neg h1, if_pos (by omega), modify_eq_mapIdx]
    refine ⟨_, rfl, mapIdx_bits buf hb _ (fun i => s ≤ i ∧ i ≤ e) true ?_⟩
    intro j b _ hbj
    by_cases hjs : j = s / 8
    · rw [if_pos hjs]
      refine ⟨or_byte hbj (and_byte _ hm1), fun t ht => tbL_or_mask (Q := s % 8 ≤ t ∧ t ≤ e % 8) ?_ (by omega)⟩
      rw [tbL_testBit, Nat.testBit_and, ← tbL_testBit, ← tbL_testBit, mask_hi hs ht, mask_lo _ ht,
        Bool.decide_and]
    · rw [if_neg hjs]
      exact ⟨hbj, fun t ht => by rw [if_neg (by omega)]⟩

theorem bitL_zero (n i : Nat) : bitL (List.replicate n 0) i = false := by
  rw [bitL_eq, byteAt_zero]; simp [tbL]

theorem wf_zero (n : Nat) : BytesWF (List.replicate n 0) := by
  intro b hb
  rw [List.mem_replicate] at hb
  omega

/-- bit `i` stands for frame `first + i`; a step adds the frames `cov` inside the window `[first, last]` -/
def StepOK (first last : Nat) (cov : Nat → Prop) (buf : Bitmap) (res : Option Bitmap) : Prop :=
  ∃ buf', res = some buf' ∧ buf'.length = buf.length ∧ BytesWF buf' ∧
    ∀ i, i < buf.length * 8 → (bitL buf' i = true ↔ (bitL buf i = true ∨ (i ≤ last - first ∧ cov i)))

theorem StepOK.congr {first last : Nat} {cov cov' : Nat → Prop} {buf : Bitmap} {res : Option Bitmap}
    (h : StepOK first last cov buf res) (e : ∀ i, cov i ↔ cov' i) : StepOK first last cov' buf res := by
  obtain ⟨b, h1, h2, h3, h4⟩ := h
  exact ⟨b, h1, h2, h3, fun i hi => (h4 i hi).trans (or_congr_right (and_congr_right fun _ => e i))⟩

theorem StepOK.skip {first last : Nat} {cov : Nat → Prop} {buf : Bitmap} (hb : BytesWF buf)
    (h : ∀ i, i ≤ last - first → ¬ cov i) : StepOK first last cov buf (some buf) :=
  ⟨buf, rfl, rfl, hb, fun i _ => ⟨Or.inl, fun hh => hh.elim id fun ⟨h1, h2⟩ => absurd h2 (h i h1)⟩⟩

theorem StepOK.set {first last lo hi : Nat} {buf : Bitmap} (hb : BytesWF buf)
    (hlen : buf.length = (last - first) / 8 + 1) (hlh : lo ≤ hi) (h1 : first ≤ hi) (h2 : lo ≤ last) :
    StepOK first last (fun i => lo ≤ first + i ∧ first + i ≤ hi) buf
      (setBits buf (max lo first - first) (min hi last - first)) := by
  obtain ⟨buf', s1, s2, s3, s4⟩ := setBits_spec buf hb (max lo first - first) (min hi last - first)
    (by omega) (by omega)
  refine ⟨buf', s1, s2, s3, fun i hi' => ?_⟩
  have e : (max lo first - first ≤ i ∧ i ≤ min hi last - first) ↔
      (i ≤ last - first ∧ lo ≤ first + i ∧ first + i ≤ hi) := by omega
  rw [s4 i hi']
  by_cases hc : max lo first - first ≤ i ∧ i ≤ min hi last - first
  · rw [if_pos hc]; exact ⟨fun _ => Or.inr (e.mp hc), fun _ => rfl⟩
  · rw [if_neg hc]; exact ⟨Or.inl, fun hh => hh.elim id fun hx => absurd (e.mpr hx) hc⟩

def optStep {α : Type} (g : Bitmap → α → Option Bitmap) (acc : Option Bitmap) (x : α) : Option Bitmap :=
  match acc with
  | none => none
  | some buf => g buf x

theorem fold_bits {α : Type} (g : Bitmap → α → Option Bitmap) (first last : Nat) (cov : α → Nat → Prop)
    (hstep : ∀ buf x, BytesWF buf → buf.length = (last - first) / 8 + 1 → StepOK first last (cov x) buf (g buf x)) :
    ∀ (items : List α) buf, BytesWF buf → buf.length = (last - first) / 8 + 1 →
      StepOK first last (fun i => ∃ x ∈ items, cov x i) buf (items.foldl (optStep g) (some buf)) := by
  intro items
  induction items with
  | nil => exact fun buf hb _ => StepOK.skip hb (by simp)
  | cons x items ih =>
    intro buf hb hl
    obtain ⟨b1, g1, g2, g3, g4⟩ := hstep buf x hb hl
    obtain ⟨b2, k1, k2, k3, k4⟩ := ih b1 g3 (g2.trans hl)
    refine ⟨b2, by rw [List.foldl_cons, optStep, g1, k1], k2.trans g2, k3, ?_⟩
    intro i hi
    rw [k4 i (g2 ▸ hi), g4 i hi]
    constructor
    · rintro ((h | ⟨h1, h2⟩) | ⟨h1, y, hy, h2⟩)
      · exact Or.inl h
      · exact Or.inr ⟨h1, x, List.mem_cons_self, h2⟩
      · exact Or.inr ⟨h1, y, List.mem_cons_of_mem _ hy, h2⟩
    · rintro (h | ⟨h1, y, hy, h2⟩)
      · exact Or.inl (Or.inl h)
      · rcases List.mem_cons.mp hy with rfl | hy
        · exact Or.inl (Or.inr ⟨h1, h2⟩)
        · exact Or.inr ⟨h1, y, hy, h2⟩

theorem StepOK.of_zero {first last : Nat} {cov : Nat → Prop} {res : Option Bitmap}
    (h : StepOK first last cov (List.replicate ((last - first) / 8 + 1) 0) res) :
    ∃ buf, res = some buf ∧ buf.length = (last - first) / 8 + 1 ∧ BytesWF buf ∧
      ∀ i, i < buf.length * 8 → (bitL buf i = true ↔ (i ≤ last - first ∧ cov i)) := by
  obtain ⟨buf, k1, k2, k3, k4⟩ := h
  refine ⟨buf, k1, k2.trans List.length_replicate, k3, fun i hi => ?_⟩
  rw [k4 i (k2 ▸ hi), bitL_zero]
  simp

theorem zero_bits (n : Nat) (S : Nat → Prop) (h : ∀ i, ¬ S i) :
    ∃ buf, some (List.replicate n 0) = some buf ∧ buf.length = n ∧ BytesWF buf ∧
      ∀ i, i < buf.length * 8 → (bitL buf i = true ↔ S i) :=
  ⟨_, rfl, List.length_replicate, wf_zero _, fun i _ => by rw [bitL_zero]; simp [h i]⟩

theorem mapped_iff_rest {pre rest : List FileMap} (h : MapsWF (pre ++ rest)) {p0 p : Nat}
    (hpre : ∀ x ∈ pre, x.endPfn ≤ p0) (hp : p0 ≤ p) :
    (∃ r ∈ allRegions rest, r.has p) ↔ Mapped (pre ++ rest) p := by
  constructor
  · rintro ⟨r, hr, hh⟩
    obtain ⟨l, hl, hrl⟩ := List.mem_flatten.mp hr
    obtain ⟨m, hm, rfl⟩ := List.mem_map.mp hl
    exact ⟨m, List.mem_append_right _ hm, r, hrl, hh⟩
  · rintro ⟨m, hm, r, hr, hh⟩
    rcases List.mem_append.mp hm with hm' | hm'
    · have := hpre m hm'
      have := (h.2 m hm).2.2 r hr
      have := hh.2
      omega
    · exact ⟨r, mem_allRegions hm' hr, hh⟩

/-! ### ELF segments -/

/-- segment `s` is non-empty and ends at or after `paddr` -/
def Hit (paddr : Nat) (s : Seg) : Prop := s.size ≠ 0 ∧ paddr ≤ s.phys + s.size - 1

theorem fc_go_cons (paddr dist : Nat) (s : Seg) (ss : List Seg) (i : Nat) :
    findClosest.go paddr dist (s :: ss) i =
      if s.size ≠ 0 ∧ paddr ≤ s.phys + s.size - 1 then
        if paddr < s.phys ∧ s.phys - paddr ≥ dist then none else some i
      else findClosest.go paddr dist ss (i+1) := rfl

theorem findClosest_first (segs : List Seg) (paddr dist : Nat) :
    (findClosest segs paddr dist = none ∧ ∀ x ∈ segs, ¬ Hit paddr x) ∨
      ∃ pre s post, segs = pre ++ s :: post ∧ (∀ x ∈ pre, ¬ Hit paddr x) ∧ Hit paddr s ∧
        findClosest segs paddr dist =
          if paddr < s.phys ∧ s.phys - paddr ≥ dist then none else some (0 + pre.length) :=
  go_first (fun s : Seg => s.size ≠ 0 ∧ paddr ≤ s.phys + s.size - 1)
    (fun i s => if paddr < s.phys ∧ s.phys - paddr ≥ dist then none else some i)
    (findClosest.go paddr dist) (fun _ => rfl) (fun _ _ _ => rfl) segs 0

theorem findClosest_some {segs : List Seg} {paddr dist i : Nat} (h : findClosest segs paddr dist = some i) :
    ∃ pre s post, segs = pre ++ s :: post ∧ i = pre.length ∧ (∀ x ∈ pre, ¬ Hit paddr x) ∧ Hit paddr s ∧
      ¬ (paddr < s.phys ∧ s.phys - paddr ≥ dist) := by
  rcases findClosest_first segs paddr dist with ⟨h1, _⟩ | ⟨pre, s, post, e1, e2, e3, e4⟩
  · cases h1.symm.trans h
  · by_cases hd : paddr < s.phys ∧ s.phys - paddr ≥ dist
    · rw [if_pos hd] at e4; cases e4.symm.trans h
    · rw [if_neg hd, h, Nat.zero_add] at e4
      exact ⟨pre, s, post, e1, Option.some.inj e4, e2, e3, hd⟩

theorem findClosest_none {segs : List Seg} {paddr dist : Nat} (h : findClosest segs paddr dist = none) :
    (∀ x ∈ segs, ¬ Hit paddr x) ∨
      ∃ pre s post, segs = pre ++ s :: post ∧ (∀ x ∈ pre, ¬ Hit paddr x) ∧ Hit paddr s ∧
        paddr < s.phys ∧ s.phys - paddr ≥ dist := by
  rcases findClosest_first segs paddr dist with ⟨_, h2⟩ | ⟨pre, s, post, e1, e2, e3, e4⟩
  · exact Or.inl h2
  · by_cases hd : paddr < s.phys ∧ s.phys - paddr ≥ dist
    · exact Or.inr ⟨pre, s, post, e1, e2, e3, hd⟩
    · rw [if_neg hd, h] at e4; cases e4

/-- frame `p` intersects the non-empty segment `s` -/
def SegCov (P : Nat) (s : Seg) (p : Nat) : Prop :=
  s.size ≠ 0 ∧ s.phys / P ≤ p ∧ p ≤ (s.phys + s.size - 1) / P

/-- a segment that does not reach `idx * P` covers no frame at or above `idx` -/
theorem not_cov_of_not_hit {P : Nat} (hP : 0 < P) {idx : Nat} {s : Seg} (h : ¬ Hit (idx * P) s) :
    ∀ j, idx ≤ j → ¬ SegCov P s j := by
  intro j hj ⟨c1, c2, c3⟩
  apply h
  refine ⟨c1, ?_⟩
  have := (Nat.le_div_iff_mul_le hP).mp (Nat.le_trans hj c3)
  exact this

theorem not_cov_before {P : Nat} (hP : 0 < P) {pre post : List Seg} {s : Seg}
    (h : SegsSorted (pre ++ s :: post)) {idx j : Nat} (hpre : ∀ x ∈ pre, ¬ Hit (idx * P) x)
    (hj1 : idx ≤ j) (hj2 : j < s.phys / P) : ¬ ∃ x ∈ pre ++ s :: post, SegCov P x j := by
  rintro ⟨x, hx, c1, c2, c3⟩
  rw [List.mem_append, List.mem_cons] at hx
  rcases hx with hx | rfl | hx
  · exact not_cov_of_not_hit hP (hpre x hx) j hj1 ⟨c1, c2, c3⟩
  · omega
  · unfold SegsSorted at h
    rw [List.pairwise_append, List.pairwise_cons] at h
    have := h.2.1.1 x hx
    have : s.phys / P ≤ x.phys / P := Nat.div_le_div_right (by omega)
    omega

end Kdf.Lemmas.Pfn
