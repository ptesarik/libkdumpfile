import Kdf.Lemmas.ConcProps
/-!
# C05 — clones of one dump can be used from different threads at the same time

`Reach cfg cap n s` quantifies over
ALL schedules of `n` threads (any `n`), all lookup keys and all fill outcomes, for every
capacity `cap ≥ 1`; `fixed` is the library with the reference drop under `cache_lock`,
`asFound` the library with the unlocked `--refcnt`.
-/
namespace Kdf.Props.C05
open Kdf.Model.Cache Kdf.Model.Conc Kdf.Lemmas.Cache Kdf.Lemmas.Conc

/-- Under every schedule, the reference count of every cache entry equals the number of
threads that are between `cache_get_entry` and the reference drop on that entry. -/
theorem pins_eq_holders (cap n : Nat) (hc : 0 < cap) (s : State) (h : Reach fixed cap n s) (i : Nat) :
    s.cache.refcnt i = holders s i := by
  exact (reach_ginv hc h).ref i

/-- After all threads have finished no cache entry is pinned. -/
theorem quiescent_unpinned (cap n : Nat) (hc : 0 < cap) (s : State) (h : Reach fixed cap n s)
    (hq : quiescent s) (i : Nat) : s.cache.refcnt i = 0 := by
  rw [(reach_ginv hc h).ref i]; exact holders_zero_of_quiescent hq i

/-- The C06 invariant of the page cache holds in every state reachable under any schedule. -/
theorem cache_inv (cap n : Nat) (hc : 0 < cap) (s : State) (h : Reach fixed cap n s) : Inv s.cache := by
  exact (reach_ginv hc h).cinv

/-- No thread ever copies out of a buffer that does not hold the complete page of its key
(two threads missing on the same page, a fill failing while another thread holds the same
in-flight entry, eviction pressure = number of threads: all schedules). -/
theorem no_wrong_bytes (cap n : Nat) (hc : 0 < cap) (s : State) (h : Reach fixed cap n s) :
    ∀ th ∈ s.thr, th.bad = false := by
  exact (reach_ginv hc h).bad

/-- No schedule drives the cache code into an undefined state or an API misuse. -/
theorem no_model_error (cap n : Nat) (hc : 0 < cap) (s : State) (h : Reach fixed cap n s)
    (t : Nat) (ev : Ev) (e : Err) : step fixed s t ev ≠ .err e := by
  exact GInv.no_err (reach_ginv hc h) t ev e

/-- A lookup is refused (`KDUMP_ERR_BUSY`) only while at least `cap` reads are in flight. -/
theorem busy_only_when_full (cap n : Nat) (hc : 0 < cap) (s : State) (h : Reach fixed cap n s)
    (k : Nat) (c' : Cache) (hb : get s.cache k = .ok (c', .busy)) : cap ≤ inFlightReads s := by
  exact GInv.busy_full (reach_ginv hc h) hb

/- The statement for an arbitrary state, FALSE (see `cache_ops_locked_counterexample`):
theorem cache_ops_locked (s s' : State) (t : Nat) (ev : Ev) (hs : step fixed s t ev = .ok s')
    (hne : s'.cache ≠ s.cache) : s.lock = some t ∧ needLock ev = true -/

/-- The cache bookkeeping is only ever changed by the owner of `cache_lock`, through one of
the operations of the lock table (in every reachable state, under every schedule). -/
theorem cache_ops_locked (cap n : Nat) (hc : 0 < cap) (s s' : State) (h : Reach fixed cap n s)
    (t : Nat) (ev : Ev) (hs : step fixed s t ev = .ok s')
    (hne : s'.cache ≠ s.cache) : s.lock = some t ∧ needLock ev = true := by
  have g := reach_ginv hc h
  rcases step_cache_change hs hne with ⟨hl, hn⟩ | ⟨-, e, tmp, hp⟩
  · exact ⟨(g.lockA t).1 hl, hn⟩
  · exact absurd hp (g.noPutU t e tmp)

/- The statement with the owner field, FALSE (see `cache_ops_locked_as_found_counterexample`):
theorem cache_ops_locked_as_found (s s' : State) (t : Nat) (ev : Ev) (hs : step asFound s t ev = .ok s')
    (hne : s'.cache ≠ s.cache) : (s.lock = some t ∧ needLock ev = true) ∨ ev = .store -/

/-- For the code as found the only exception is the unlocked store of `--refcnt`: every other
step that changes the cache bookkeeping is an operation of the lock table taken by a thread
inside a `cache_lock` critical section (any state, no invariant needed) -/
theorem cache_ops_locked_as_found (s s' : State) (t : Nat) (ev : Ev) (hs : step asFound s t ev = .ok s')
    (hne : s'.cache ≠ s.cache) :
    ((s.thread t).pc.hasLock = true ∧ needLock ev = true) ∨ ev = .store := by
  rcases step_cache_change hs hne with h | ⟨h, -⟩
  · exact Or.inl h
  · exact Or.inr h

/-- An (unreachable) state in which thread 0 is inside a critical section although nobody owns
`cache_lock`: `step` does not look at the owner field at such a pc; the field is tied to the pc only
by the invariant (clause `lockA`), i.e. in reachable states. -/
def unlockedCs : State := { init 1 1 with thr := [⟨.locked1, 0, none, false⟩] }

/-- `cache_ops_locked` is false without `Reach`. -/
theorem cache_ops_locked_counterexample :
    ∃ s s' t ev, step fixed s t ev = .ok s' ∧ s'.cache ≠ s.cache ∧
      ¬ (s.lock = some t ∧ needLock ev = true) := by
  refine ⟨unlockedCs, _, 0, .get 7, rfl, ?_, ?_⟩ <;> decide

/-- `cache_ops_locked_as_found`, which has no invariant to lean on, is false with the owner field in
the place of `hasLock`. -/
theorem cache_ops_locked_as_found_counterexample :
    ∃ s s' t ev, step asFound s t ev = .ok s' ∧ s'.cache ≠ s.cache ∧
      ¬ ((s.lock = some t ∧ needLock ev = true) ∨ ev = .store) := by
  refine ⟨unlockedCs, _, 0, .get 7, rfl, ?_, ?_⟩ <;> decide

/-- `cache_lock` is held by exactly the thread inside a critical section: at most one. -/
theorem mutual_exclusion (cap n : Nat) (hc : 0 < cap) (s : State) (h : Reach fixed cap n s) (t : Nat) :
    (s.thread t).pc.hasLock = true ↔ s.lock = some t := by
  exact (reach_ginv hc h).lockA t

/-- A writer of `shared->lock` (attribute write) excludes every read. -/
theorem writer_exclusive (cap n : Nat) (hc : 0 < cap) (s : State) (h : Reach fixed cap n s) (t : Nat)
    (hw : s.writer = some t) (t' : Nat) (hne : t' ≠ t) : (s.thread t').pc = .idle := by
  have g := reach_ginv hc h
  rcases idle_or_writing (g.wrX (by rw [hw]; rfl) t') with hpc | hpc
  · exact hpc
  · -- `t'` would be the writer
    have hw' := (g.wrA t').1 hpc
    rw [hw] at hw'
    exact absurd (Option.some.inj hw').symm hne

/-- No deadlock and no lost wake-up: in every reachable state in which some thread is inside the
library, some thread can take a step. -/
theorem no_deadlock (cap n : Nat) (hc : 0 < cap) (s : State) (h : Reach fixed cap n s)
    (hq : ¬ quiescent s) : ∃ t ev s', step fixed s t ev = .ok s' := by
  exact GInv.progress (reach_ginv hc h) hq

/-- Every state a schedule leads to is reachable (ties `run`, which the driver executes, to `Reach`) -/
theorem run_reach (cfg : Cfg) (cap n : Nat) (sched : List (Nat × Ev)) (s : State)
    (hr : run cfg (init cap n) sched = .ok s) : Reach cfg cap n s := by
  exact run_reach_from cfg cap n sched _ s Reach.init hr

/-! ### The code as found: the statements above are FALSE, with concrete 2-thread witnesses -/

/-- both threads hit the same page; the two unlocked `--refcnt` interleave (load, load, store,
store): one decrement is lost and the entry stays pinned forever -/
def schedLost : List (Nat × Ev) :=
  [(0,.rdlock),(0,.lock),(0,.get 7),(0,.unlock),(0,.fillEnd true),(0,.lock),(0,.insert),(0,.unlock),(0,.copy),
   (1,.rdlock),(1,.lock),(1,.get 7),(1,.unlock),(1,.copy),
   (0,.load),(1,.load),(0,.store),(1,.store),(0,.rdunlock),(1,.rdunlock)]

/-- thread 0 loads the count (1); thread 1 hits the same entry (count 2); thread 0 stores 0: the
entry is evictable while thread 1 uses it; thread 0 reads another page into the same buffer;
thread 1 copies the wrong page -/
def schedBad : List (Nat × Ev) :=
  [(0,.rdlock),(0,.lock),(0,.get 7),(0,.unlock),(0,.fillEnd true),(0,.lock),(0,.insert),(0,.unlock),(0,.copy),
   (0,.load),(1,.rdlock),(1,.lock),(1,.get 7),(1,.unlock),(0,.store),
   (0,.lock),(0,.get 9),(0,.unlock),(0,.fillEnd true),(1,.copy)]

theorem unlocked_put_loses_count :
    ∃ s, run asFound (init 1 2) schedLost = .ok s ∧ quiescent s ∧ s.cache.refcnt 0 = 1 := by
  refine ⟨_, rfl, ?_, ?_⟩ <;> decide

theorem unlocked_put_wrong_bytes :
    ∃ s, run asFound (init 1 2) schedBad = .ok s ∧ (s.thread 1).bad = true := by
  refine ⟨_, rfl, ?_⟩; decide

/-- negation of `quiescent_unpinned` for the code as found -/
theorem quiescent_unpinned_false_as_found :
    ¬ ∀ s, Reach asFound 1 2 s → quiescent s → ∀ i, s.cache.refcnt i = 0 := by
  intro hall
  obtain ⟨s, hr, hq, h1⟩ := unlocked_put_loses_count
  have h0 := hall s (run_reach asFound 1 2 schedLost s hr) hq 0
  rw [h1] at h0
  cases h0

/-- negation of `no_wrong_bytes` for the code as found -/
theorem no_wrong_bytes_false_as_found :
    ¬ ∀ s, Reach asFound 1 2 s → ∀ th ∈ s.thr, th.bad = false := by
  intro hall
  obtain ⟨s, hr, hb⟩ := unlocked_put_wrong_bytes
  have hlt : 1 < s.thr.length := by
    apply Nat.lt_of_not_le
    intro hge
    rw [thread_default hge] at hb
    cases hb
  have h0 := hall s (run_reach asFound 1 2 schedBad s hr) _ (thread_mem hlt)
  rw [hb] at h0
  cases h0

/-! ### Lock order -/

/-- the lock-order graph of the repaired library has no cycle … -/
theorem lock_order_acyclic : hasCycle lockOrder = false ∧ acyclicBy lockOrder id = true := by decide

/-- … the graph of the library as found (LKCD `pfn_block_mutex` → `cache_lock` in
`lkcd_max_pfn_revalidate`) has one -/
theorem lock_order_as_found_cyclic : hasCycle lockOrderAsFound = true := by decide

/-! ### Non-vacuity -/

/-- a schedule of the repaired protocol in which two threads miss on the same page, one fill
fails while the other thread holds the same in-flight entry, and both finish -/
def schedSame : List (Nat × Ev) :=
  [(0,.rdlock),(0,.lock),(0,.get 7),(0,.unlock),
   (1,.rdlock),(1,.lock),(1,.get 7),(1,.unlock),
   (0,.fillEnd false),(0,.lock),(0,.discard),(0,.unlock),(0,.rdunlock),
   (1,.fillEnd true),(1,.lock),(1,.insert),(1,.unlock),(1,.copy),(1,.lock),(1,.put),(1,.unlock),(1,.rdunlock)]

example : ∃ s, run fixed (init 1 2) schedSame = .ok s ∧ quiescent s := by
  refine ⟨_, rfl, ?_⟩; decide

end Kdf.Props.C05
