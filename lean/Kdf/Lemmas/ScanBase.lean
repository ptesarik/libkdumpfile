import Kdf.Model.Scan
import Kdf.Lemmas.PgtForm

/-! Base lemmas for C08: arithmetic of the index split, list updates of `idx[]`, the invariant
`At` ("`s` is the walk state of `va` at the table of level `r`") and the one-step case analysis. -/
namespace Kdf.Lemmas.Scan

open Kdf.Model.Pgt Kdf.Model.Scan Kdf.Model.PgtArch Kdf.Spec.ArchWalk Kdf.Lemmas.Pgt
  Kdf.Lemmas.PgtWalk

/-- same as `X64Form` of `Kdf.Lemmas.Scan` (definitionally) -/
def XF (pf : PagingForm) : Prop :=
  pf.fmt = .x86_64 ∧ (pf.fieldsz = [12, 9, 9, 9, 9] ∨ pf.fieldsz = [12, 9, 9, 9, 9, 9])

/-! The two field lists are fixed tables: what holds of every level is checked by evaluation. -/

def FieldsOK (fields : List Nat) : Prop :=
  2 ≤ fields.length ∧ (∀ b ∈ fields, b < 64) ∧ 1 ≤ fields.getD (fields.length - 1) 0 ∧
    spanBits fields fields.length ≤ 64 ∧ fields.getD 0 0 = 12

instance (fields : List Nat) : Decidable (FieldsOK fields) := by unfold FieldsOK; exact inferInstance

section
variable {pf : PagingForm} (h : XF pf)
include h

theorem xf_len : pf.fieldsz.length = 5 ∨ pf.fieldsz.length = 6 := by
  rcases h.2 with h | h <;> rw [h] <;> simp

theorem xf_fld {i : Nat} (h2 : i < pf.fieldsz.length) (h1 : 1 ≤ i) :
    pf.fieldsz.getD i 0 = 9 := by
  revert i
  rcases h.2 with h | h <;> rw [h] <;> decide

theorem xf_fld0 : pf.fieldsz.getD 0 0 = 12 := by
  rcases h.2 with h | h <;> rw [h] <;> rfl

theorem xf_sb {i : Nat} (h2 : i < pf.fieldsz.length + 1) (h1 : 1 ≤ i) :
    spanBits pf.fieldsz i = 12 + 9 * (i - 1) := by
  revert i
  rcases h.2 with h | h <;> rw [h] <;> decide

theorem xf_sb_succ {r : Nat} (hn : r < pf.fieldsz.length + 1)
    (h2 : 2 ≤ r) :
    spanBits pf.fieldsz r = spanBits pf.fieldsz (r-1) + 9 ∧ 12 ≤ spanBits pf.fieldsz (r-1) ∧
      spanBits pf.fieldsz r ≤ 64 := by
  revert r
  rcases h.2 with h | h <;> rw [h] <;> decide

theorem xf_ok : FieldsOK pf.fieldsz := by
  rcases h.2 with h | h <;> rw [h] <;> decide

theorem xf_arch : archForm pf = true := by
  rcases h.2 with h' | h' <;> simp [archForm, h.1, h']

theorem xf_tableSize {i : Nat} (h2 : i < pf.fieldsz.length) (h1 : 1 ≤ i) :
    tableSize pf i = some 512 := by
  have := xf_fld h h2 h1
  rw [List.getD_eq_getElem?_getD, List.getElem?_eq_getElem h2, Option.getD_some] at this
  rw [tableSize, List.getElem?_eq_getElem h2, this]
  rfl

theorem xf_tableSize0 : tableSize pf 0 = some 4096 := by
  rcases h.2 with h | h <;> simp [tableSize, h]

end

theorem div_high {x y p a : Nat} (h : x / 2^p = y / 2^p) (hpa : p ≤ a) : x / 2^a = y / 2^a := by
  have : (2:Nat)^a = 2^p * 2^(a-p) := pow_split hpa
  rw [this, ← Nat.div_div_eq_div_mul, ← Nat.div_div_eq_div_mul, h]

theorem idx_low_zero (m p a b : Nat) (h : a + b ≤ p) : (m * 2^p) / 2^a % 2^b = 0 := by
  have e : (2:Nat)^p = 2^(p - a - b) * 2^b * 2^a := by
    rw [← Nat.pow_add, ← Nat.pow_add]; congr 1; omega
  rw [e, ← Nat.mul_assoc, Nat.mul_div_cancel _ (Nat.two_pow_pos a), ← Nat.mul_assoc, Nat.mul_mod_left]

theorem pred_mul_divmod {n A : Nat} (hn : 0 < n) (hA : 0 < A) :
    (n * A - 1) / A = n - 1 ∧ (n * A - 1) % A = A - 1 := by
  obtain ⟨j, rfl⟩ : ∃ j, n = j + 1 := ⟨n - 1, by omega⟩
  have e : (j + 1) * A - 1 = A * j + (A - 1) := by
    rw [Nat.add_mul, Nat.one_mul, Nat.mul_comm]; omega
  rw [e, Nat.mul_add_div hA, Nat.mul_add_mod, Nat.div_eq_of_lt (by omega), Nat.mod_eq_of_lt (by omega)]
  exact ⟨rfl, rfl⟩

theorem idx_low_ones (m p a b : Nat) (hm : 1 ≤ m) (h : a + b ≤ p) :
    (m * 2^p - 1) / 2^a % 2^b = 2^b - 1 := by
  have e : (2:Nat)^p = 2^(p - a - b) * 2^b * 2^a := by
    rw [← Nat.pow_add, ← Nat.pow_add]; congr 1; omega
  have hB := Nat.two_pow_pos b
  have hN := Nat.mul_pos hm (Nat.two_pow_pos (p - a - b))
  rw [e, ← Nat.mul_assoc, ← Nat.mul_assoc, (pred_mul_divmod (Nat.mul_pos hN hB) (Nat.two_pow_pos a)).1]
  exact (pred_mul_divmod hN hB).2

theorem div_range {E x q : Nat} (hE : 0 < E) : x / E = q ↔ q * E ≤ x ∧ x < (q + 1) * E := by
  rw [Nat.div_eq_iff hE, Nat.add_mul]; omega

theorem or_mask (x p : Nat) : x ||| (2^p - 1) = x / 2^p * 2^p + (2^p - 1) := by
  rw [← or_eq_add _ _ _ (by have := Nat.two_pow_pos p; omega)]
  apply Nat.eq_of_testBit_eq
  intro i
  rw [Nat.testBit_or, Nat.testBit_or, Nat.testBit_two_pow_sub_one, Nat.testBit_mul_two_pow,
    Nat.testBit_div_two_pow]
  by_cases h : i < p
  · simp [h]
  · have h1 : p ≤ i := by omega
    have h2 : i - p + p = i := by omega
    simp [h, h1, h2]

theorem succ_digit {q : Nat} (h : q % 512 + 1 < 512) :
    (q + 1) / 512 = q / 512 ∧ q % 512 + 1 = (q + 1) % 512 := by omega

theorem pred_digit {q : Nat} (h : 0 < q % 512) :
    (q - 1) / 512 = q / 512 ∧ q % 512 - 1 = (q - 1) % 512 ∧ 0 < q := by omega

theorem mod_of_mul_pow {m p k : Nat} (h : k ≤ p) : m * 2^p % 2^k = 0 := by
  rw [pow_split h, Nat.mul_left_comm, Nat.mul_mod_right]

theorem idxAt_setIdx (s : Step) (j w i : Nat) :
    idxAt (setIdx s j w) i = if i = j ∧ j < s.idx.length then w else idxAt s i := by
  simp only [idxAt, setIdx, List.getD_eq_getElem?_getD, List.getElem?_set]
  by_cases h : j = i
  · subst h
    by_cases h2 : j < s.idx.length
    · simp [h2]
    · simp [h2]
  · have : ¬ i = j := fun e => h e.symm
    simp [h, this]

theorem idxAt_fillLow (s : Step) (v : Nat → Nat) (i : Nat) :
    idxAt (fillLow s v) i = if i < s.remain - 1 ∧ i < s.idx.length then v i else idxAt s i := by
  simp only [idxAt, fillLow, List.getD_eq_getElem?_getD, List.getElem?_mapIdx]
  by_cases h2 : i < s.idx.length
  · rw [List.getElem?_eq_getElem h2]
    by_cases h1 : i < s.remain - 1
    · simp [h1, h2]
    · simp [h1]
  · have : s.idx[i]? = none := List.getElem?_eq_none (by omega)
    simp [h2]

theorem fillLow_len (s : Step) (v : Nat → Nat) : (fillLow s v).idx.length = s.idx.length := by
  simp [fillLow]

theorem setIdx_len (s : Step) (j w : Nat) : (setIdx s j w).idx.length = s.idx.length := by
  simp [setIdx]

/-- what a page-table method and its scanners depend on: memory, target address space, root, PTE mask,
paging form -/
structure ScanCfg where
  mem : Mem
  t : Nat
  root : FullAddr
  pteMask : Nat
  pf : PagingForm

def ScanCfg.meth (c : ScanCfg) : Meth := .pgt c.t c.root c.pteMask c.pf

def ScanCfg.sf (c : ScanCfg) : StepFn := stepOnce extra c.mem c.meth

def ScanCfg.n (c : ScanCfg) : Nat := c.pf.fieldsz.length

def ScanCfg.sb (c : ScanCfg) (i : Nat) : Nat := spanBits c.pf.fieldsz i

/-- the architectural descent of `x` from the table `b` of level `j + 1` -/
def descendFrom (c : ScanCfg) (x j : Nat) (b : FullAddr) : Except XStatus FullAddr :=
  descend decodeX86_64 c.mem c.pf.fieldsz 8 c.t c.pteMask x j b

/-- the architectural descent from the root (the walk without the canonical-address check) -/
def rootDescent (c : ScanCfg) (x : Nat) : Except XStatus FullAddr := descendFrom c x (c.n - 1) c.root

/-- `s` is the walk state of `va` standing at the table of level `r`; `base`: from there the descent of
every `x` under the same table goes the way the descent from the root does -/
structure At (c : ScanCfg) (va r : Nat) (s : Step) : Prop where
  rem : s.remain = r
  inv : IdxOK c.pf va s.idx
  len : s.idx.length = 9
  esz : s.elemsz = 8
  base : ∀ x, x / 2^(c.sb r) = va / 2^(c.sb r) → rootDescent c x = descendFrom c x (r - 1) s.base

theorem ite_ne {α : Type} {c : Prop} [Decidable c] {a b d : α} (ha : a ≠ d) (hb : b ≠ d) :
    (if c then a else b) ≠ d := by
  split <;> assumption

theorem decode_ne_invalid (r pte : Nat) : decodeX86_64 r pte ≠ .invalid :=
  ite_ne nofun (ite_ne nofun (ite_ne nofun (ite_ne nofun nofun)))

/-- what one `addrxlat_step` finds in the entry of `va`, and what that means for every address under
the same entry -/
inductive StepCase (c : ScanCfg) (va r : Nat) (s : Step) : Prop
  | err (e : XStatus) (hsf : c.sf s = .error e) (hne : e ≠ .ok)
      (hall : ∀ x, x / 2^(c.sb (r-1)) = va / 2^(c.sb (r-1)) → rootDescent c x = .error e)
  | leaf (s1 s2 : Step) (h1 : c.sf s = .ok s1) (hr : s1.remain = 1) (h2 : c.sf s1 = .ok s2)
      (hall : ∀ x, x / 2^(c.sb (r-1)) = va / 2^(c.sb (r-1)) → ∃ b, rootDescent c x = .ok b)
      (hva : rootDescent c va = .ok s2.base)
  | table (s1 : Step) (h1 : c.sf s = .ok s1) (hat : At c va (r-1) s1) (hr : 3 ≤ r)
      (hrem : 1 < s1.remain)

theorem sf_eq (c : ScanCfg) (s : Step) (h : 2 ≤ s.remain) :
    c.sf s = nextStepPgt extra c.mem c.t c.pteMask c.pf (decr s) := by
  have h0 : ¬ s.remain = 0 := by omega
  have h1 : ¬ s.remain - 1 = 0 := by omega
  simp only [ScanCfg.sf, stepOnce, h0, h1, if_false, ScanCfg.meth, nextStep]
  rfl

theorem sf_last (c : ScanCfg) (s : Step) (h : s.remain = 1) :
    c.sf s = .ok { s with remain := 0, elemsz := 0,
                          base := ⟨(s.base.addr + idxAt s 0 * s.elemsz) % W, c.t⟩ } := by
  simp [ScanCfg.sf, stepOnce, h, ScanCfg.meth, Meth.targetAs]

/-- overwriting the indices below the current level with `v` and the current one with `w` gives the
walk state of every `va'` under the same table whose address fields are these values -/
theorem At.move {c : ScanCfg} {va r : Nat} {s : Step} (h : At c va r s) (h2 : 2 ≤ r)
    (h9 : r ≤ 9) {va' w : Nat} {v : Nat → Nat} (hT : va' / 2^(c.sb r) = va / 2^(c.sb r))
    (hw : w = va' / 2^(c.sb (r-1)) % 2^(c.pf.fieldsz.getD (r-1) 0))
    (hv : ∀ i, i < r - 1 → v i = va' / 2^(c.sb i) % 2^(c.pf.fieldsz.getD i 0)) :
    At c va' r (setIdx (fillLow s v) (r-1) w) := by
  have hlen : (setIdx (fillLow s v) (r-1) w).idx.length = 9 := by
    rw [setIdx_len, fillLow_len, h.len]
  refine ⟨h.rem, ⟨by rw [hlen, ← h.len]; exact h.inv.1, fun i hi => ?_⟩, hlen, h.esz,
    fun x hx => h.base x (by rw [hx, hT])⟩
  show idxAt _ i = _
  rw [idxAt_setIdx, idxAt_fillLow, fillLow_len, h.rem, h.len]
  by_cases h1 : i = r - 1
  · rw [if_pos ⟨h1, by omega⟩, h1]
    exact hw
  · rw [if_neg (fun hh => h1 hh.1)]
    by_cases h3 : i < r - 1
    · rw [if_pos ⟨h3, by omega⟩]
      exact hv i h3
    · -- the fields from level `r` up are those of `va`
      have hs : c.sb r ≤ spanBits c.pf.fieldsz i := span_mono _ (by omega)
      rw [if_neg (fun hh => h3 hh.1), idxAt, h.inv.2 i hi, div_high hT hs]

/-- the architectural descent inside the tables, the whole walk at top level -/
abbrev Sem := Nat → Except XStatus FullAddr

def NotPresent (g : Sem) (x : Nat) : Prop := g x = .error .notpresent

/-- where `lowest_mapped` (`off = 0`) and `highest_mapped` (`off = 4095`) stop: at the first / last
byte of a mapped page, or at a failing table read -/
def StopAt (off : Nat) (g : Sem) : XStatus → Nat → Step → Prop
  | .ok, a, s => a % 4096 = off ∧ g a = .ok s.base
  | e, a, _ => g a = .error e

theorem StopAt.err {off : Nat} {g : Sem} {st : XStatus} {a : Nat} {s : Step} (h : st ≠ .ok)
    (hs : StopAt off g st a s) : g a = .error st := by
  cases st <;> first | exact absurd rfl h | exact hs

theorem StopAt.congr {off : Nat} {g g' : Sem} {st : XStatus} {a : Nat} {s : Step} (h : g' a = g a) :
    StopAt off g st a s → StopAt off g' st a s := by
  cases st <;> simp only [StopAt, h, imp_self]

/-- `match rec s1 addr with | .done .notpresent addr' _ => k addr' | r => r`: a table below that is
exhausted sends the loop to its next entry, any other result is final -/
def onRec (k : Nat → Res) : Res → Res
  | .done .notpresent a _ => k a
  | r => r

/-- the common shape of the scanners' postconditions: `NPc a` if the answer is "not present" with
`*addr = a`, `STc st a s` for any other status -/
def PostG (NPc : Nat → Prop) (STc : XStatus → Nat → Step → Prop) : Res → Prop
  | .done st a s => if st = .notpresent then NPc a else STc st a s
  | .fuel => False
  | .undef => False

section
variable {NPc NPc' : Nat → Prop} {STc STc' : XStatus → Nat → Step → Prop} {a : Nat} {s : Step}
  {st : XStatus} {res : Res}

theorem postG_np : PostG NPc STc (.done .notpresent a s) ↔ NPc a := by simp [PostG]

theorem postG_stop (h : st ≠ .notpresent) : PostG NPc STc (.done st a s) ↔ STc st a s := by
  simp [PostG, h]

theorem PostG.elim {P : Res → Prop} (hp : PostG NPc STc res)
    (hn : ∀ a s, NPc a → P (.done .notpresent a s))
    (hs : ∀ st a s, st ≠ .notpresent → STc st a s → P (.done st a s)) : P res := by
  cases res with
  | fuel => exact hp.elim
  | undef => exact hp.elim
  | done st a s =>
    by_cases h : st = .notpresent
    · subst h
      exact hn a s (postG_np.1 hp)
    · exact hs st a s h ((postG_stop h).1 hp)

/-- a postcondition read as the `match` on the result in which the scanners' specifications are
written -/
theorem PostG.toMatch {A : Nat → Step → Prop} {B : Prop} {C : XStatus → Nat → Prop}
    (hp : PostG NPc STc res) (hok : ∀ a s, STc .ok a s → A a s) (hnp : ∀ a, NPc a → B)
    (herr : ∀ e a s, e ≠ .ok → e ≠ .notpresent → STc e a s → C e a) :
    match res with
    | .done .ok a s => A a s
    | .done .notpresent _ _ => B
    | .done e a _ => C e a
    | .fuel => False
    | .undef => False := by
  split
  next a s => exact hok a s ((postG_stop (by decide)).1 hp)
  next a _ => exact hnp a (postG_np.1 hp)
  next e a s h1 h2 => exact herr e a s h1 h2 ((postG_stop h2).1 hp)
  next => exact hp
  next => exact hp

theorem PostG.imp (hp : PostG NPc STc res) (hn : ∀ a, NPc a → NPc' a)
    (hs : ∀ st a s, st ≠ .notpresent → STc st a s → STc' st a s) : PostG NPc' STc' res :=
  hp.elim (fun a _ h => postG_np.2 (hn a h)) (fun st a s h h' => (postG_stop h).2 (hs st a s h h'))

theorem postG_onRec {k : Nat → Res} (hp : PostG NPc STc res)
    (hn : ∀ a, NPc a → PostG NPc' STc' (k a))
    (hs : ∀ st a s, st ≠ .notpresent → STc st a s → STc' st a s) :
    PostG NPc' STc' (onRec k res) :=
  hp.elim (P := fun r => PostG NPc' STc' (onRec k r)) (fun a _ h => hn a h)
    (fun st a s h h' => by
      have : onRec k (.done st a s) = .done st a s := by cases st <;> first | rfl | exact absurd rfl h
      rw [this]
      exact (postG_stop h).2 (hs st a s h h'))

end

theorem map_error_iff {r : Except XStatus Step} {e : XStatus} :
    r.map (·.base) = .error e ↔ r = .error e := by
  cases r <;> simp [Except.map]

theorem map_ok_exists {r : Except XStatus Step} {b : FullAddr} (h : r.map (·.base) = .ok b) :
    ∃ s, r = .ok s := by
  cases r with
  | error e => simp [Except.map] at h
  | ok s => exact ⟨s, rfl⟩

section
variable (c : ScanCfg) (hpf : XF c.pf)
include hpf

theorem sb_succ {r : Nat} (h2 : 2 ≤ r) (hn : r ≤ c.n) :
    c.sb r = c.sb (r-1) + 9 ∧ 12 ≤ c.sb (r-1) ∧ c.sb r ≤ 64 :=
  xf_sb_succ hpf (Nat.lt_succ_of_le hn) h2

theorem idx_cur {addr r : Nat} {s : Step} (h : At c addr r s) (h2 : 2 ≤ r)
    (hn : r ≤ c.n) : idxAt s (r-1) = addr / 2^(c.sb (r-1)) % 512 := by
  have hn' : r ≤ c.pf.fieldsz.length := hn
  rw [idxAt, h.inv.2 (r-1) (by omega), xf_fld hpf (by omega) (by omega)]
  rfl

theorem tbl_consts {r : Nat} (h2 : 2 ≤ r) (hn : r ≤ c.n) :
    tableSize c.pf (r-1) = some 512 ∧ tableMask c.pf (r-1) = 2^(c.sb (r-1)) - 1 := by
  have hn' : r ≤ c.pf.fieldsz.length := hn
  have hsb := sb_succ c hpf h2 hn
  have hsp : spanBits c.pf.fieldsz (r-1) ≤ 64 := by
    have : c.sb (r-1) = spanBits c.pf.fieldsz (r-1) := rfl
    omega
  exact ⟨xf_tableSize hpf (by omega) (by omega), tableMask_eq _ _ hsp⟩

theorem firstStep_ok (hroot : c.root.as ≠ NOADDR) (x : Nat)
    (hc : canonical .signed (spanBits c.pf.fieldsz c.pf.fieldsz.length) x = true) :
    firstStep c.meth x = .ok (initStep c.root c.pf x) := by
  obtain ⟨h2, hl, hlast, _, _⟩ := xf_ok hpf
  have := firstOK_signed c.t c.root c.pteMask c.pf x (by simp only [firstStep, hpf.1]) hl (by omega) hlast
  unfold FirstOK at this
  rw [ScanCfg.meth, this]
  simp [hroot, hc]

theorem firstStep_nodata (hroot : c.root.as = NOADDR) (x : Nat) :
    firstStep c.meth x = .error .nodata := by
  simp [ScanCfg.meth, firstStep, hpf.1, firstStepPgtGeneric, hroot, bind, Except.bind]

theorem at_init (x : Nat) : At c x c.n (initStep c.root c.pf x) := by
  obtain ⟨h2, hl, hlast, _, _⟩ := xf_ok hpf
  refine ⟨rfl, initStep_idxOK _ _ _ hl, ?_, ?_, fun _ _ => rfl⟩
  · simp only [initStep, List.length_append, split_length, List.length_replicate]
    rcases xf_len hpf with h | h <;> omega
  · have h' : c.pf.fieldsz.length > 1 := by omega
    simp [initStep, hpf.1, ptevalShift, h']

variable (hmask : c.pteMask < W) (hmemok : ∀ as a sz, c.mem as a sz ≠ .error .ok)
include hmask hmemok

theorem stepCase (va r : Nat) (s : Step)
    (h : At c va r s) (h2 : 2 ≤ r) (hn : r ≤ c.n) : StepCase c va r s := by
  obtain ⟨j, rfl⟩ : ∃ j, r = j + 2 := ⟨r - 2, by omega⟩
  have hn' : j + 2 ≤ c.pf.fieldsz.length := hn
  have hsf := sf_eq c s (by rw [h.rem]; omega)
  have hs := stepSim_x86_64 c.mem c.t c.pteMask c.pf va hpf.1 hmask (xf_ok hpf).2.2.2.1 (j+1) (decr s)
    (by omega) (by omega) (by simp [decr, h.rem]) h.inv
  -- `decr s` points at `ea`, the entry of `va` in the table `s.base`
  obtain ⟨ea, hea⟩ : ∃ ea, ea =
      (s.base.addr + va / 2^(spanBits c.pf.fieldsz (j+1)) % 2^(c.pf.fieldsz.getD (j+1) 0) * 8) % W :=
    ⟨_, rfl⟩
  have haddr : (decr s).base.addr = ea := by
    simp only [decr, h.rem, h.esz]
    rw [show j + 2 - 1 = j + 1 from rfl, idxAt, h.inv.2 (j+1) (by omega), hea]
  rw [show (decr s).base.as = s.base.as from rfl, haddr] at hs
  -- and the architectural descent of every `x` under the same entry reads that entry too
  have hG : ∀ x, x / 2^(c.sb (j+1)) = va / 2^(c.sb (j+1)) →
      rootDescent c x =
        match c.mem s.base.as ea 8 with
        | .error e => .error e
        | .ok raw =>
          match decodeX86_64 (j+1) (raw &&& ((W - 1) ^^^ c.pteMask)) with
          | .notPresent => .error .notpresent
          | .invalid => .error .invalid
          | .leaf a => .ok ⟨(a + x % 2^(spanBits c.pf.fieldsz (j+1))) % W, c.t⟩
          | .table a => descendFrom c x j ⟨a, c.t⟩ := by
    intro x hx
    have hx' : x / 2^(spanBits c.pf.fieldsz (j+1)) = va / 2^(spanBits c.pf.fieldsz (j+1)) := hx
    rw [h.base x (div_high hx (span_mono _ (by omega))), hea]
    show descendFrom c x (j+1) s.base = _
    simp only [descendFrom]
    rw [descend]
    simp only [hx']
    rfl
  cases hm : c.mem s.base.as ea 8 with
  | error e =>
    rw [hm] at hs
    refine .err e (by rw [hsf]; exact hs) (fun he => hmemok _ _ _ (by rw [hm, he])) fun x hx => ?_
    rw [hG x hx, hm]
  | ok raw =>
    rw [hm] at hs; simp only [] at hs
    cases hd : decodeX86_64 (j+1) (raw &&& ((W - 1) ^^^ c.pteMask)) with
    | notPresent | invalid =>
      rw [hd] at hs
      refine .err _ (by rw [hsf]; exact hs) (by decide) fun x hx => ?_
      rw [hG x hx, hm]; simp only [hd]
    | leaf a =>
      rw [hd] at hs
      obtain ⟨s2, h1, h2', h3, h4, h5⟩ := hs
      refine .leaf s2 _ (by rw [hsf]; exact h1) h2' (sf_last c s2 h2') (fun x hx => ?_) ?_
      · rw [hG x hx, hm]; simp only [hd]
        exact ⟨_, rfl⟩
      · rw [hG va rfl, hm]; simp only [hd]
        rw [h3, h4, h5, Nat.mul_one]
    | table a =>
      rw [hd] at hs
      obtain ⟨h2j, s2, h1, h2', h3, h4, h5⟩ := hs
      refine .table s2 (by rw [hsf]; exact h1)
        ⟨h2', h4 ▸ h.inv, by rw [h4]; exact h.len, by rw [h3]; exact h.esz, fun x hx => ?_⟩
        (Nat.succ_le_succ h2j) (by rw [h2']; exact h2j)
      rw [hG x hx, hm]; simp only [hd]
      rw [h5]; rfl

end

end Kdf.Lemmas.Scan
