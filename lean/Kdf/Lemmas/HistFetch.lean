import Kdf.Model.Hist
import Kdf.Lemmas.HistCache
/-!
C04, section 1: the page cache composed with a fill function `f`.  `fetch` is a lookup followed,
on a miss, by filling the buffer of the entry that went in flight; the state in between
satisfies `PInv` again, so the fill is treated on its own (`fill_ok`, `fill_fail`).
-/
namespace Kdf.Props.C04
open Kdf.Model.Cache Kdf.Model.Hist Kdf.Lemmas.Cache

/-- the extra invariant: a valid entry's buffer holds `f key` -/
def Coh {V E : Type} (f : Nat → Except E V) (s : PCache V) : Prop :=
  ∀ i ∈ cached s.c, ∃ d v, s.c.dataOf i = some d ∧ s.content d = some v ∧ f (s.c.key i) = .ok v

/-- invariant of the composition: C06's invariant, every buffer of the cache exists, and
coherence with `f` -/
def PInv {V E : Type} (f : Nat → Except E V) (s : PCache V) : Prop :=
  Inv s.c ∧ s.c.cap ≤ s.buf.length ∧ Coh f s

/-- the state between two calls of a single-threaded history: nothing is in flight -/
def QInv {V E : Type} (f : Nat → Except E V) (s : PCache V) : Prop := PInv f s ∧ s.c.F = []

/-- C06's busy rule: the key is neither cached nor in flight and every buffer is
referenced or being filled -/
def BusyRule (c : Cache) (k : Nat) : Prop :=
  k ∉ (live c).map c.key ∧ c.pinned + c.F.length ≥ c.cap

end Kdf.Props.C04

namespace Kdf.Lemmas.Hist
open Kdf.Model.Cache Kdf.Model.Hist Kdf.Lemmas.Cache Kdf.Props.C04

variable {V E : Type} {s s' : PCache V}

theorem coh_frame {f : Nat → Except E V} (h : Coh f s) {c' : Cache}
    (hfr : ∀ j ∈ cached c', j ∈ cached s.c ∧ c'.key j = s.c.key j ∧ c'.dataOf j = s.c.dataOf j) :
    Coh f { s with c := c' } := by
  intro j hj
  obtain ⟨hjc, hk, hd⟩ := hfr j hj
  obtain ⟨d, v, h1, h2, h3⟩ := h j hjc
  exact ⟨d, v, hd.trans h1, h2, (congrArg f hk).trans h3⟩

/-- an entry in flight is not cached, and no two entries share a buffer -/
theorem coh_set_inflight {f : Nat → Except E V} {st : Prop} (h : Coh f s)
    (hI : InvS s.c st) {i d : Nat} (hiF : i ∈ s.c.F) (hd : s.c.dataOf i = some d) (x : Option V) :
    Coh f { s with buf := s.buf.set d x } := by
  intro j hj
  obtain ⟨d', v, h1, h2, h3⟩ := h j hj
  have hne : i ≠ j := fun e => not_cached_of_inflight hI hiF (e ▸ hj)
  have hdne : d ≠ d' := fun e =>
    inv_unique_buffer hI (live_lt hI (inflight_live hiF)) (live_lt hI (cached_live hj)) hne hd (e ▸ h1)
  refine ⟨d', v, h1, ?_, h3⟩
  show (s.buf.set d x).getD d' none = some v
  rw [List.getD_eq_getElem?_getD, List.getElem?_set_ne hdne, ← List.getD_eq_getElem?_getD]
  exact h2

variable (f : Nat → Except E V)

theorem fill_ok (h : PInv f s) {i d : Nat} {v : V}
    (hiF : i ∈ s.c.F) (hd : s.c.dataOf i = some d) (hfk : f (s.c.key i) = .ok v) :
    ∃ c2, insert s.c i = .ok (c2, .done) ∧ PInv f ⟨c2, s.buf.set d (some v)⟩ ∧ c2.cap = s.c.cap ∧
      i ∈ cached c2 ∧ c2.F = s.c.F.erase i ∧ ∀ j, c2.refcnt j = s.c.refcnt j := by
  obtain ⟨hI, hlen, hcoh⟩ := h
  have hS := (inv_iff _).1 hI
  obtain ⟨c2, hins, hF2, hic2, hsub, hcap2, hsame⟩ := insert_track (hI.inflight_invalid i hiF) hiF
  have hdlt : d < s.buf.length :=
    Nat.lt_of_lt_of_le (data_lt_cap hS (live_lt hS (inflight_live hiF)) hd) hlen
  refine ⟨c2, hins, ⟨(inv_iff _).2 (insert_spec hS hins).1, ?_, fun j hj => ?_⟩, hcap2, hic2, hF2,
    fun j => (hsame j).2.2⟩
  · show c2.cap ≤ (s.buf.set d (some v)).length
    rw [List.length_set, hcap2]; exact hlen
  · show ∃ d' v', c2.dataOf j = some d' ∧ (s.buf.set d (some v)).getD d' none = some v' ∧
      f (c2.key j) = .ok v'
    rw [(hsame j).1, (hsame j).2.1]
    rcases hsub j hj with rfl | hjc
    · refine ⟨d, v, hd, ?_, hfk⟩
      rw [List.getD_eq_getElem?_getD, List.getElem?_set_self hdlt]; rfl
    · exact coh_set_inflight hcoh hS hiF hd _ j hjc

theorem fill_fail (h : PInv f s) {i d : Nat}
    (hiF : i ∈ s.c.F) (hd : s.c.dataOf i = some d) :
    ∃ c2, discard s.c i = .ok (c2, .done) ∧ PInv f ⟨c2, s.buf.set d none⟩ ∧ c2.cap = s.c.cap ∧
      (∀ j, c2.refcnt j = if j = i then s.c.refcnt i - 1 else s.c.refcnt j) ∧
      (s.c.refcnt i = 1 → c2.F = s.c.F.erase i) := by
  obtain ⟨hI, hlen, hcoh⟩ := h
  have hS := (inv_iff _).1 hI
  obtain ⟨c2, hdis, hc2, hcap2, hkd, hrc, hFe⟩ :=
    discard_track (hI.inflight_ref i hiF) (hI.inflight_invalid i hiF) hiF
  refine ⟨c2, hdis, ⟨(inv_iff _).2 (discard_spec hS hdis).1, ?_, ?_⟩, hcap2, hrc, hFe⟩
  · show c2.cap ≤ (s.buf.set d none).length
    rw [List.length_set, hcap2]; exact hlen
  · exact coh_frame (coh_set_inflight hcoh hS hiF hd none) fun j hj => ⟨hc2 ▸ hj, hkd j⟩

def FetchPost (s : PCache V) (k : Nat) (s' : PCache V) : FetchOut V E → Prop
  | .busy => s' = s
  | .got i v => f k = .ok v ∧ i ∈ cached s'.c ∧ s'.c.refcnt i ≠ 0
  | .fail e => f k = .error e

/-- effect on `F` and the reference counts when nothing was in flight before -/
def FetchTrack (s s' : PCache V) : FetchOut V E → Prop
  | .busy => True
  | .got i _ => s'.c.F = [] ∧ RefLe s.c s'.c i
  | .fail _ => s'.c.F = [] ∧ ∀ j, s'.c.refcnt j ≤ s.c.refcnt j

/-- `cache_get_page` with result `(s', o)` -/
structure FetchSpec (s : PCache V) (k : Nat) (s' : PCache V) (o : FetchOut V E) : Prop where
  inv : PInv f s'
  cap : s'.c.cap = s.c.cap
  busy_iff : o = .busy ↔ BusyRule s.c k
  post : FetchPost f s k s' o
  quiet : s.c.F = [] → FetchTrack s s' o

theorem fetch_full (s : PCache V) (k : Nat) (h : PInv f s) :
    ∃ s' o, fetch f s k = .ok (s', o) ∧ FetchSpec f s k s' o := by
  have hI := h.1
  obtain ⟨c1, o, hg, hS1, hcap, hfr, hout⟩ := get_spec ((inv_iff _).1 hI) k
  have htr := get_track hg
  have hI1 : Inv c1 := (inv_iff _).2 hS1
  -- what is cached after the lookup was cached before, with its key and its buffer
  have hP1 : PInv f { s with c := c1 } := ⟨hI1, hcap ▸ h.2.1, coh_frame h.2.2 hfr.cach⟩
  unfold fetch
  rw [hg]
  cases o with
  | done => exact hout.elim
  | busy =>
    obtain ⟨rfl, hnk, hb⟩ := hout
    refine ⟨s, .busy, rfl, h, rfl, ⟨fun _ => ⟨fun hm => ?_, hb⟩, fun _ => rfl⟩, rfl, fun _ => trivial⟩
    obtain ⟨j, hj, hjk⟩ := List.mem_map.1 hm
    exact hnk j hj hjk
  | entry i valid =>
    cases valid with
    | true =>
      obtain ⟨hic, hik, hic1⟩ := hout
      obtain ⟨d, v, hd1, hv, hfv⟩ := hP1.2.2 i hic1
      have hv : s.content d = some v := hv
      simp only [hd1, if_true, hv]
      refine ⟨_, _, rfl, hP1, hcap, ⟨nofun, fun hb => ?_⟩,
        ⟨(congrArg f ((hfr.cach i hic1).2.1.trans hik)).symm.trans hfv, hic1,
          htr.2.2 (hS1.1 ▸ live_lt hS1 (cached_live hic1))⟩, fun hF0 => ⟨htr.1.trans hF0, htr.2.1⟩⟩
      exact absurd (List.mem_map.2 ⟨i, cached_live hic, hik⟩) hb.1
    | false =>
      obtain ⟨hiF, hik, hor⟩ := hout
      have hilt : i < 2 * c1.cap := live_lt hS1 (inflight_live hiF)
      obtain ⟨d, hd1⟩ := Option.isSome_iff_exists.1 (hI1.live_data i (inflight_live hiF))
      have hd1 : c1.dataOf i = some d := hd1
      have hnb : ¬ BusyRule s.c k := by
        rintro ⟨hnk, hb⟩
        rcases hor with ⟨j, hj, hjk⟩ | hlt
        · exact hnk (List.mem_map.2 ⟨j, hj, hjk⟩)
        · exact Nat.not_le_of_lt hlt hb
      simp only [hd1, Bool.false_eq_true, if_false]
      cases hfk : f k with
      | ok v =>
        obtain ⟨c2, hins, hP2, hcap2, hic2, hF2, hsame⟩ :=
          fill_ok f hP1 hiF hd1 ((congrArg f hik).trans hfk)
        simp only [hins]
        refine ⟨_, _, rfl, hP2, hcap2.trans hcap, ⟨nofun, fun hb => absurd hb hnb⟩,
          ⟨hfk, hic2, ?_⟩, fun hF0 => ?_⟩
        · show c2.refcnt i ≠ 0
          rw [hsame i]; exact hI1.inflight_ref i hiF
        · refine ⟨?_, fun j => ?_⟩
          · show c2.F = []
            rw [hF2, (get_quiet hI hF0 hg).1]; exact List.erase_cons_head ..
          · show c2.refcnt j ≤ _
            rw [hsame j]; exact htr.2.1 j
      | error e =>
        obtain ⟨c2, hdis, hP2, hcap2, hrc, hFe⟩ := fill_fail f hP1 hiF hd1
        simp only [hdis]
        refine ⟨_, _, rfl, hP2, hcap2.trans hcap, ⟨nofun, fun hb => absurd hb hnb⟩, hfk,
          fun hF0 => ?_⟩
        obtain ⟨hF1, hr1⟩ := get_quiet hI hF0 hg
        refine ⟨?_, fun j => ?_⟩
        · show c2.F = []
          rw [hFe hr1, hF1]; exact List.erase_cons_head ..
        · show c2.refcnt j ≤ _
          have hle := htr.2.1 j
          rw [hrc j]
          by_cases hj : j = i
          · rw [if_pos hj, hr1]; exact Nat.zero_le _
          · rw [if_neg hj] at hle ⊢; exact hle

/-- `hput`: C06's protocol, `cache_put_entry` must not drop the last reference of an entry in flight -/
theorem release_full (s : PCache V) (i : Nat) (h : PInv f s)
    (hr : s.c.refcnt i ≠ 0) (hput : i ∈ s.c.F → s.c.refcnt i ≠ 1) :
    ∃ s', release s i = .ok s' ∧ PInv f s' ∧ s'.c.cap = s.c.cap ∧ s'.c.F = s.c.F ∧
      ∀ j, s'.c.refcnt j = if j = i then s.c.refcnt i - 1 else s.c.refcnt j := by
  obtain ⟨hI, hlen, hcoh⟩ := h
  have hp := put_eq hr
  obtain ⟨hI2, -⟩ := put_spec ((inv_iff _).1 hI) hp (fun _ => hput)
  unfold release
  rw [hp]
  exact ⟨_, rfl, ⟨(inv_iff _).2 hI2, hlen, coh_frame hcoh fun j hj => ⟨hj, decref_same s.c i j⟩⟩, rfl, rfl,
    refcnt_decref s.c (refcnt_lt_len hr)⟩

theorem release_ref {e : Nat} (hs : release s e = .ok s') : s.c.refcnt e ≠ 0 := by
  intro h0
  unfold release put at hs
  rw [if_pos h0] at hs
  cases hs

/-- a complete page access with result `(s', r)` -/
structure PageSpec (s : PCache V) (k : Nat) (s' : PCache V) (r : Res V E) : Prop where
  inv : PInv f s'
  cap : s'.c.cap = s.c.cap
  busy_iff : r = .busy ↔ BusyRule s.c k
  answer : r ≠ .busy → r = Res.ofExcept (f k)
  quiet : s.c.F = [] → s'.c.F = [] ∧ ∀ j, s'.c.refcnt j ≤ s.c.refcnt j

theorem getPage_full (s : PCache V) (k : Nat) (h : PInv f s) :
    ∃ s' r, getPage f s k = .ok (s', r) ∧ PageSpec f s k s' r := by
  obtain ⟨s1, o, hfe, h1⟩ := fetch_full f s k h
  unfold getPage
  rw [hfe]
  cases o with
  | busy =>
    have : s1 = s := h1.post
    subst this
    exact ⟨_, _, rfl, h1.inv, rfl, ⟨fun _ => h1.busy_iff.1 rfl, fun _ => rfl⟩, fun hn => absurd rfl hn,
      fun hF0 => ⟨hF0, fun j => Nat.le_refl _⟩⟩
  | fail e =>
    have hfk : f k = .error e := h1.post
    exact ⟨_, _, rfl, h1.inv, h1.cap, ⟨nofun, fun hb => nomatch h1.busy_iff.2 hb⟩,
      fun _ => by rw [hfk]; rfl, h1.quiet⟩
  | got i v =>
    obtain ⟨hfk, hic, hrf⟩ : f k = .ok v ∧ i ∈ cached s1.c ∧ s1.c.refcnt i ≠ 0 := h1.post
    obtain ⟨s2, hrel, hP2, hcap2, hF2, hr2⟩ := release_full f s1 i h1.inv hrf
      fun hF => absurd hic (not_cached_of_inflight ((inv_iff _).1 h1.inv.1) hF)
    simp only [hrel]
    refine ⟨_, _, rfl, hP2, hcap2.trans h1.cap, ⟨nofun, fun hb => nomatch h1.busy_iff.2 hb⟩,
      fun _ => by rw [hfk]; rfl, fun hF0 => ?_⟩
    obtain ⟨hF1, hle⟩ : s1.c.F = [] ∧ RefLe s.c s1.c i := h1.quiet hF0
    refine ⟨hF2.trans hF1, fun j => ?_⟩
    have := hle j
    rw [hr2 j]
    by_cases hj : j = i
    · rw [if_pos hj] at this ⊢
      exact Nat.sub_le_of_le_add (hj ▸ this)
    · rw [if_neg hj] at this ⊢
      exact this

theorem hstep_resize {f : Nat → Except E V} {cap : Nat}
    (hs : hstep f s (.resize cap) = .ok s') : 0 < cap ∧ s' = PCache.init cap := by
  rw [hstep] at hs
  by_cases hc : cap = 0
  · rw [if_pos hc] at hs; cases hs
  · rw [if_neg hc] at hs
    split at hs
    · cases hs
    · cases hs
      exact ⟨Nat.pos_of_ne_zero hc, rfl⟩

/-- `P` may speak of the operations still to come -/
theorem hrun_ind {P : PCache V → List HOp → Prop}
    (step : ∀ s s' op ops, P s (op :: ops) → hstep f s op = .ok s' → P s' ops) :
    ∀ (ops : List HOp) (s s' : PCache V), P s ops → hrun f s ops = .ok s' → P s' []
  | [], s, s', h, hr => by
    cases hr
    exact h
  | op :: ops, s, s', h, hr => by
    unfold hrun at hr
    cases hs : hstep f s op with
    | error e => rw [hs] at hr; cases hr
    | ok s1 =>
      rw [hs] at hr
      exact hrun_ind step ops s1 s' (step s s1 op ops h hs) hr

/-- no reference is held -/
def NoRef (s : PCache V) : Prop := ∀ j, s.c.refcnt j = 0

theorem noRef_init (cap : Nat) : NoRef (PCache.init (V := V) cap) := fun j => flush_refcnt cap j

theorem read_noRef {k : Nat} (h : QInv f s) (hn : NoRef s)
    (hs : hstep f s (.read k) = .ok s') : NoRef s' := by
  obtain ⟨s1, r, hgp, h1⟩ := getPage_full f s k h.1
  simp only [hstep, hgp, Except.map, Except.ok.injEq] at hs
  subst hs
  exact fun j => Nat.eq_zero_of_le_zero (hn j ▸ (h1.quiet h.2).2 j)

theorem not_busy_of_noRef (hI : Inv s.c) (hF : s.c.F = []) (hn : NoRef s) (k : Nat) :
    ¬ BusyRule s.c k := by
  rintro ⟨-, hb⟩
  have h1 : ∀ l : List Nat, (l.filter fun i => s.c.refcnt i ≠ 0) = [] := fun l =>
    List.filter_eq_nil_iff.2 fun a _ => by simp [hn a]
  have hp : s.c.pinned = 0 := by
    unfold Cache.pinned
    rw [h1, h1]; rfl
  have := hI.cap_pos
  rw [hp, hF] at hb
  simp at hb
  omega

theorem getPage_noRef (s : PCache V) (k : Nat) (h : QInv f s) (hn : NoRef s) :
    ∃ s', getPage f s k = .ok (s', Res.ofExcept (f k)) := by
  obtain ⟨s1, r, hgp, h1⟩ := getPage_full f s k h.1
  have hnb : r ≠ .busy := fun hb => not_busy_of_noRef h.1.1 h.2 hn k (h1.busy_iff.1 hb)
  exact ⟨s1, by rw [hgp, h1.answer hnb]⟩

end Kdf.Lemmas.Hist
