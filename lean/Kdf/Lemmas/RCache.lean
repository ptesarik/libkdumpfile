import Kdf.Model.RCache
/-!
# Helper lemmas about `Kdf.Model.RCache` (`get_cache_buf` with a re-entrant get-page callback)

`Good c fuel o` collects what one call of `getBuf` on cache `c` guarantees about its outcome `o`;
`getBuf_good` proves it for every callback, cache state and address by induction on the
recursion budget.  The property theorems in `Kdf/Props/C09Read.lean` are its projections.
-/
namespace Kdf.Lemmas.RCache
open Kdf.Model.Pgt Kdf.Model.RCache

theorem sum_set (f : Slot → Nat) (l : List Slot) (i : Nat) (x : Slot) (h : i < l.length) :
    ((l.set i x).map f).sum + f (l.getD i {}) = (l.map f).sum + f x := by
  induction l generalizing i with
  | nil => simp at h
  | cons y ys ih =>
    cases i with
    | zero => simp; omega
    | succ j =>
      have := ih j (by simpa using h)
      simp at this ⊢; omega

theorem free_le_length (c : RCache) : free c ≤ c.slots.length := by
  unfold free
  induction c.slots with
  | nil => simp
  | cons y ys ih =>
    have : y.free ≤ 1 := by unfold Slot.free; split <;> omega
    simp; omega

theorem held_filling {s : Slot} (h : s.filling = true) : s.held = 0 := by
  unfold Slot.held; rw [h]; simp

theorem free_filling {s : Slot} (h : s.filling = true) : s.free = 0 := by
  unfold Slot.free; rw [h]; rfl

theorem free_not_filling {s : Slot} (h : s.filling = false) : s.free = 1 := by
  unfold Slot.free; rw [h]; rfl

theorem slotAt_setSlot_ne {i k : Nat} (h : k ≠ i) (c : RCache) (x : Slot) :
    slotAt (setSlot c i x) k = slotAt c k := by
  simp [slotAt, setSlot, List.getD, List.getElem?_set_ne (Ne.symm h)]

theorem length_setSlot (c : RCache) (i : Nat) (x : Slot) : (setSlot c i x).slots.length = c.slots.length :=
  List.length_set

section
variable {c : RCache} {i : Nat} (h : i < c.slots.length) (x : Slot)
include h

theorem slotAt_setSlot_self : slotAt (setSlot c i x) i = x := by
  simp [slotAt, setSlot, List.getD, h]

theorem held_setSlot : held (setSlot c i x) + (slotAt c i).held = held c + x.held :=
  sum_set Slot.held c.slots i x h

theorem free_setSlot : free (setSlot c i x) + (slotAt c i).free = free c + x.free :=
  sum_set Slot.free c.slots i x h

end

/-- the slot the walk along `prev` arrives at exists and is not being filled -/
theorem pick_usable {c : RCache} {i : Nat} (h : pick c = some i) :
    i < c.slots.length ∧ (slotAt c i).filling = false := by
  have := List.find?_some h
  simpa [usable] using this

/-- what a call of `get_cache_buf` on cache `c` guarantees about its outcome -/
structure Good (c : RCache) (fuel : Nat) (o : Out) : Prop where
  len : o.cache.slots.length = c.slots.length
  /-- a slot that is being filled is left exactly as it is -/
  frame : ∀ k, (slotAt c k).filling = true → slotAt o.cache k = slotAt c k
  /-- every mark is as before: the call clears exactly the mark it set -/
  flags : ∀ k, (slotAt o.cache k).filling = (slotAt c k).filling
  /-- delivered buffers are in a slot or were put -/
  ledger : o.got + held c = o.put + held o.cache
  depth : o.depth ≤ free c
  calls : o.calls ≤ free c
  stuck : free c ≤ fuel → o.stuck = false

/-- `Good` looks at the slots and the counters of an outcome only -/
theorem Good.of_slots {c : RCache} {fuel : Nat} {o : Out} (h : Good c fuel o) (r : Except XStatus Nat)
    {c' : RCache} (hs : c'.slots = o.cache.slots) : Good c fuel { o with res := r, cache := c' } := by
  refine ⟨?_, ?_, ?_, ?_, h.depth, h.calls, h.stuck⟩ <;> dsimp only
  · rw [hs]; exact h.len
  · intro k hk; unfold slotAt; rw [hs]; exact h.frame k hk
  · intro k; unfold slotAt; rw [hs]; exact h.flags k
  · unfold held; rw [hs]; exact h.ledger

/-- the `out:` label (`finish`) touches the order of the slots at most -/
theorem good_finish {c c1 : RCache} {fuel i k d g p : Nat} {b : Bool}
    (h : Good c fuel ⟨.error .nodata, c1, k, d, g, p, b⟩) : Good c fuel (finish c1 i k d g p b) := by
  unfold finish
  split
  · exact h.of_slots (.ok i) (c' := touch c1 i) rfl
  · exact h

theorem good_same (c : RCache) (fuel : Nat) (r : Except XStatus Nat) (b : Bool)
    (hst : free c ≤ fuel → b = false) : Good c fuel ⟨r, c, 0, 0, 0, 0, b⟩ :=
  ⟨rfl, fun _ _ => rfl, fun _ => rfl, rfl, Nat.zero_le _, Nat.zero_le _, hst⟩

/-- the common shape of every way the fetch into slot `i` can end: the slot is rewritten with a
slot `s'` that is no longer being filled, everything else is what the callback's own read left -/
theorem good_leaf {c : RCache} {fuel i : Nat} {a : FullAddr} {pre : Out}
    (hi : i < c.slots.length) (hnf : (slotAt c i).filling = false)
    (hpre : Good (beginFill c i a) fuel pre) (s' : Slot) (hf : s'.filling = false) (r : Except XStatus Nat) :
    Good c (fuel+1) ⟨r, setSlot pre.cache i s', pre.calls + 1, pre.depth + 1, pre.got + s'.held,
      pre.put + (slotAt c i).held, pre.stuck⟩ := by
  let m : Slot := ⟨a, (slotAt c i).size, false, true⟩
  have hbi : slotAt (beginFill c i a) i = m := slotAt_setSlot_self hi m
  have hne : ∀ k, k ≠ i → slotAt (beginFill c i a) k = slotAt c k := fun k hk => slotAt_setSlot_ne hk c m
  have hprei : slotAt pre.cache i = m := by rw [hpre.frame i (by rw [hbi]), hbi]
  have hlen1 : (beginFill c i a).slots.length = c.slots.length := length_setSlot c i m
  have hilen : i < pre.cache.slots.length := by rw [hpre.len, hlen1]; exact hi
  -- the two sums across the two writes to slot `i`
  have hheld1 : held (beginFill c i a) + (slotAt c i).held = held c + m.held := held_setSlot hi m
  have hfree1 : free (beginFill c i a) + (slotAt c i).free = free c + m.free := free_setSlot hi m
  have hheld2 := held_setSlot hilen s'
  rw [held_filling (s := m) rfl] at hheld1
  rw [free_filling (s := m) rfl, free_not_filling hnf] at hfree1
  rw [hprei, held_filling (s := m) rfl] at hheld2
  refine ⟨?_, ?_, ?_, ?_, ?_, ?_, ?_⟩ <;> dsimp only
  · rw [length_setSlot, hpre.len, hlen1]
  · intro k hk
    have hki : k ≠ i := by intro h; subst h; rw [hnf] at hk; cases hk
    rw [slotAt_setSlot_ne hki, hpre.frame k (by rw [hne k hki]; exact hk), hne k hki]
  · intro k
    by_cases hki : k = i
    · subst hki
      rw [slotAt_setSlot_self hilen, hf, hnf]
    · rw [slotAt_setSlot_ne hki, hpre.flags k, hne k hki]
  · have := hpre.ledger; omega
  · have := hpre.depth; omega
  · have := hpre.calls; omega
  · intro h; exact hpre.stuck (by omega)

theorem deliver_good (cb : Cb) (c : RCache) (fuel i : Nat) (a : FullAddr) (pre : Out)
    (hi : i < c.slots.length) (hnf : (slotAt c i).filling = false)
    (hpre : Good (beginFill c i a) fuel pre) :
    Good c (fuel+1) (deliver cb a i (slotAt c i).held pre) := by
  unfold deliver
  have hfail := fun st =>
    good_leaf hi hnf hpre { slotAt pre.cache i with size := 0, filling := false } rfl (.error st)
  have hfin := fun b =>
    good_finish (i := i) (good_leaf hi hnf hpre ⟨⟨a.addr / PAGE * PAGE, a.as⟩, PAGE, b, false⟩ rfl _)
  cases pre.res with
  | error st => exact hfail st
  | ok v =>
    simp only []
    cases cb.res a with
    | fail st => exact hfail st
    | data => exact hfin true
    | noptr => exact hfin false

theorem preRead_good (cb : Cb) (rec : RCache → FullAddr → Out) (fuel : Nat)
    (hrec : ∀ c a, Good c fuel (rec c a)) (c1 : RCache) (a : FullAddr) : Good c1 fuel (preRead cb rec c1 a) := by
  unfold preRead
  split
  · exact good_same c1 fuel _ _ fun _ => rfl
  · split
    · exact hrec _ _
    · exact good_same c1 fuel _ _ fun _ => rfl

theorem getBuf_good (cb : Cb) (fuel : Nat) : ∀ c a, Good c fuel (getBuf cb fuel c a) := by
  -- one level of `get_cache_buf`, given the claim for the nested reads; `getBuf` unfolds alike for
  -- budget 0 and n+1, so the split on the budget is made inside
  have step : ∀ fuel, (∀ n, fuel = n + 1 → ∀ c a, Good c n (getBuf cb n c a)) →
      ∀ c a, Good c fuel (getBuf cb fuel c a) := by
    intro fuel ih c a
    unfold getBuf
    split
    · exact good_finish (good_same c _ _ _ fun _ => rfl)
    · split
      · exact good_same c _ _ _ fun _ => rfl
      · rename_i i hp
        have hu := pick_usable hp
        cases fuel with
        | zero =>
          refine good_same c 0 _ _ ?_
          intro h
          -- a usable slot exists, so `free c ≥ 1`
          have := free_setSlot hu.1 ⟨a, 0, false, true⟩
          rw [free_not_filling hu.2, free_filling rfl] at this
          have h0 : free c ≤ 0 := h
          omega
        | succ n => exact deliver_good cb c n i a _ hu.1 hu.2 (preRead_good cb (getBuf cb n) n (ih n rfl) _ a)
  induction fuel with
  | zero => exact step 0 nofun
  | succ n ih => exact step (n+1) fun _ hn => by cases hn; exact ih

end Kdf.Lemmas.RCache
