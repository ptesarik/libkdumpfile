import Kdf.Model.Derived
import Kdf.Lemmas.DerivedVmci
/-! The VMCOREINFO hooks.  One run of `typedPost`, `linesPost`, `addRow` keeps `raw` whatever the
outcome; a successful one keeps `lines`, only adds to `inst`, and changes the typed store by
`typedEffect`.  Hence the lines of an accepted text are its key/value list, and the typed view
agrees with the LAST row of each `TYPE(sym)` key (invariant `TInv`). -/
namespace Kdf.Lemmas.DerivedTyped
open Kdf.Model.Derived Kdf.Lemmas.DerivedVmci

/-- what `parsed_line_hook` makes of a key: (is it SYMBOL, type name, attribute path below
`linux.vmcoreinfo`) for a well-formed `TYPE(sym)` key of one of the five types -/
def typedKey (key : Bytes) : Option (Bool × String × Bytes) :=
  if key.dropWhile (· != 40) = [] then none
  else if ((key.dropWhile (· != 40)).drop 1).dropWhile (· != 41) ≠ [41] then none
  else
    match typeNames.find? (fun n => bytesOf n == key.takeWhile (· != 40)) with
    | none => none
    | some tn => some (tn == "SYMBOL", tn,
        key.takeWhile (· != 40) ++ [46] ++ ((key.dropWhile (· != 40)).drop 1).takeWhile (· != 41))

/-- the typed value a row's value denotes (`strtoull`, base 16 for symbols, else base 0, the whole
string must be consumed) -/
def parseTyped (isSym : Bool) (val : Bytes) : Option (Bool × Nat) :=
  if (strtou (if isSym then 16 else 0) val).2 ≠ [] then none
  else some (isSym, (strtou (if isSym then 16 else 0) val).1)

/-- what the hook does to the typed store -/
def typedEffect (s : Store Typed) (key val : Bytes) : Store Typed :=
  match typedKey key with
  | none => s
  | some (b, _, p) =>
    match parseTyped b val with
    | some (_, n) => s.put p ⟨b, n, true⟩
    | none =>
      match s.find p with
      | some t => if t.addr = b then s.put p { t with set := false } else s
      | none => s

/-- what a hook may change besides `typed`, `page` and `ver`: nothing of `lines` and `raw`, and
`inst` only grows -/
def Frame (c c' : Ctx) : Prop :=
  c'.lines = c.lines ∧ c'.raw = c.raw ∧ ∀ d, c.inst.contains d = true → c'.inst.contains d = true

theorem Frame.refl (c : Ctx) : Frame c c := ⟨rfl, rfl, fun _ h => h⟩

theorem addInst_frame (c : Ctx) (d : String) : Frame c (addInst c d) := by
  unfold addInst
  split
  · exact Frame.refl c
  · refine ⟨rfl, rfl, fun e h => ?_⟩
    show (d :: c.inst).contains e = true
    rw [List.contains_cons, h, Bool.or_true]

theorem addInst_typed (c : Ctx) (d : String) : (addInst c d).typed = c.typed := by
  unfold addInst; split <;> rfl

theorem addInst_self (c : Ctx) (d : String) : (addInst c d).inst.contains d = true := by
  unfold addInst
  split
  · assumption
  · simp

theorem typedKey_of_no_paren {key : Bytes} (h : 40 ∉ key) : typedKey key = none := by
  rcases split_at_first 40 key with ⟨hd, _⟩ | ⟨t, _, hk⟩
  · rw [typedKey, if_pos hd]
  · exact absurd (hk ▸ List.mem_append_right _ List.mem_cons_self) h

theorem typedPost_effect (c : Ctx) (key val : Bytes) (st : Status) (c' : Ctx)
    (h : typedPost c key val = .done st c') :
    Frame c c' ∧ (st = .ok → c'.typed = typedEffect c.typed key val) := by
  unfold typedPost at h
  unfold typedEffect typedKey parseTyped
  simp only at h ⊢
  -- the hook and `typedEffect` make the same tests in the same order
  by_cases h1 : key.dropWhile (· != 40) = []
  · rw [if_pos h1] at h; rw [if_pos h1]
    cases h; exact ⟨Frame.refl _, fun _ => rfl⟩
  · rw [if_neg h1] at h; rw [if_neg h1]
    by_cases h2 : ((key.dropWhile (· != 40)).drop 1).dropWhile (· != 41) ≠ [41]
    · rw [if_pos h2] at h; rw [if_pos h2]
      cases h; exact ⟨Frame.refl _, fun _ => rfl⟩
    · rw [if_neg h2] at h; rw [if_neg h2]
      cases hf : typeNames.find? (fun n => bytesOf n == key.takeWhile (· != 40)) with
      | none =>
        simp only [hf] at h ⊢
        cases h; exact ⟨Frame.refl _, fun _ => rfl⟩
      | some tn =>
        simp only [hf] at h ⊢
        by_cases h3 : (strtou (if (tn == "SYMBOL") = true then 16 else 0) val).2 ≠ []
        · rw [if_pos h3] at h; rw [if_pos h3]
          simp only
          split at h
          · rename_i t ht
            rw [ht]
            simp only
            split at h
            · rename_i ha
              rw [if_pos ha]
              cases h; exact ⟨⟨rfl, rfl, fun _ h => h⟩, fun _ => rfl⟩
            · rename_i ha
              rw [if_neg ha]
              cases h; exact ⟨Frame.refl _, fun _ => rfl⟩
          · rename_i ht
            rw [ht]
            cases h; exact ⟨Frame.refl _, fun _ => rfl⟩
        · rw [if_neg h3] at h; rw [if_neg h3]
          simp only
          split at h
          · cases h; exact ⟨Frame.refl _, nofun⟩
          · cases h; exact ⟨Frame.refl _, nofun⟩
          · cases h; exact ⟨addInst_frame _ _, fun _ => addInst_typed _ _⟩

theorem linesPost_effect (c : Ctx) (key val : Bytes) (st : Status) (c' : Ctx)
    (h : linesPost c key val = .done st c') :
    Frame c c' ∧ (st = .ok → c'.typed = typedEffect c.typed key val) := by
  unfold linesPost at h
  split at h
  · rename_i hk
    simp only at h
    split at h
    · cases h
      subst hk
      exact ⟨Frame.refl _, fun _ => by rw [typedEffect, typedKey_of_no_paren (by decide)]⟩
    · -- a new page size, or the new release below, is outside what the statement speaks of
      split at h
      · exact (typedPost_effect _ _ _ _ _ h :)
      · rename_i hx _
        cases h
        exact ⟨⟨rfl, rfl, fun _ h => h⟩, fun e => absurd e hx⟩
      · cases h
      · cases h
  · split at h
    · exact (typedPost_effect _ _ _ _ _ h :)
    · exact typedPost_effect _ _ _ _ _ h

/-- what an accepted row has done -/
structure AddRowOk (c : Ctx) (r : Row) (c' : Ctx) : Prop where
  noDot : leadingDot r.key = false
  lines : c'.lines = c.lines.put r.key r.val
  instLines : c'.inst.contains "lines" = true
  instMono : ∀ d, c.inst.contains d = true → c'.inst.contains d = true
  /-- the hook is not run for a line that already had this value -/
  typed : (c'.typed = c.typed ∧ c.lines.find r.key = some r.val) ∨
    c'.typed = typedEffect c.typed r.key r.val

theorem addRow_effect (c : Ctx) (r : Row) (st : Status) (c' : Ctx) (h : addRow c r = .done st c') :
    c'.raw = c.raw ∧ (st = .ok → AddRowOk c r c') := by
  unfold addRow at h
  split at h
  · cases h; exact ⟨rfl, nofun⟩
  · cases h; exact ⟨rfl, nofun⟩
  · rename_i hblocked _
    have hk : leadingDot r.key = false := by
      cases hd : leadingDot r.key with
      | false => rfl
      | true => exact absurd (slotOf_dot _ _ hd) hblocked
    have hi := addInst_frame { c with lines := c.lines.put r.key r.val } "lines"
    simp only at h
    split at h
    · rename_i hsame
      cases h
      exact ⟨hi.2.1, fun _ => ⟨hk, hi.1, addInst_self _ _, hi.2.2,
        Or.inl ⟨addInst_typed _ _, by simpa using hsame⟩⟩⟩
    · obtain ⟨hf, ht⟩ := linesPost_effect _ _ _ _ _ h
      refine ⟨hf.2.1.trans hi.2.1, fun e => ⟨hk, hf.1.trans hi.1, hf.2.2 _ (addInst_self _ _),
        fun d hd => hf.2.2 d (hi.2.2 d hd), Or.inr ?_⟩⟩
      rw [ht e, addInst_typed]

theorem addRows_cons (c : Ctx) (r : Row) (t : List Row) (st : Status) (c' : Ctx)
    (h : addRows c (r :: t) = .done st c') :
    (∃ c1, addRow c r = .done .ok c1 ∧ addRows c1 t = .done st c') ∨
    (st ≠ .ok ∧ addRow c r = .done st c') := by
  unfold addRows at h
  split at h
  · rename_i c1 h1
    exact Or.inl ⟨c1, h1, h⟩
  · rename_i hno
    exact Or.inr ⟨fun e => hno c' (e ▸ h), h⟩

theorem addRows_raw (rows : List Row) : ∀ (c : Ctx) (st : Status) (c' : Ctx),
    addRows c rows = .done st c' → c'.raw = c.raw := by
  induction rows with
  | nil => intro c st c' h; cases h; rfl
  | cons r t ih =>
    intro c st c' h
    rcases addRows_cons c r t st c' h with ⟨c1, h1, h2⟩ | ⟨_, h1⟩
    · exact (ih _ _ _ h2).trans (addRow_effect _ _ _ _ h1).1
    · exact (addRow_effect _ _ _ _ h1).1

structure AddRowsOk (c : Ctx) (rows : List Row) (c' : Ctx) : Prop where
  lines : ∀ k, c'.lines.find k = match lastVal rows k with
                                  | some v => some v
                                  | none => c.lines.find k
  instLines : rows ≠ [] → c'.inst.contains "lines" = true
  instMono : ∀ d, c.inst.contains d = true → c'.inst.contains d = true
  noDot : ∀ r ∈ rows, leadingDot r.key = false

theorem addRows_ok (rows : List Row) : ∀ (c c' : Ctx),
    addRows c rows = .done .ok c' → AddRowsOk c rows c' := by
  induction rows with
  | nil =>
    intro c c' h
    cases h
    exact ⟨fun _ => rfl, fun h => absurd rfl h, fun _ h => h, nofun⟩
  | cons r t ih =>
    intro c c' h
    rcases addRows_cons c r t .ok c' h with ⟨c1, h1, h2⟩ | ⟨hne, _⟩
    · have a := (addRow_effect _ _ _ _ h1).2 rfl
      have b := ih _ _ h2
      refine ⟨fun k => ?_, fun _ => b.instMono _ a.instLines,
        fun d hd => b.instMono d (a.instMono d hd), ?_⟩
      · -- a later row with this key wins, else this row if it has the key
        rw [b.lines k, lastVal_cons, a.lines, find_put]
        cases lastVal t k with
        | some v => rfl
        | none =>
          dsimp only
          split <;> rfl
      · intro x hx
        rcases List.mem_cons.mp hx with rfl | hx
        · exact a.noDot
        · exact b.noDot x hx
    · exact absurd rfl hne

theorem setRaw_ok_noDot (c : Ctx) (b : Bytes) (c' : Ctx) (h : setRaw c b = .done .ok c') :
    ∀ r ∈ rowsOf b, leadingDot r.key = false :=
  (addRows_ok _ _ _ h).noDot

theorem setRaw_lines (c : Ctx) (b : Bytes) (c' : Ctx)
    (h : setRaw c b = .done .ok c') :
    ∀ k, c'.lines.find k = lastVal (rowsOf b) k := by
  intro k
  rw [(addRows_ok _ _ _ h).lines k]
  cases lastVal (rowsOf b) k <;> rfl

theorem typedKey_shape (key : Bytes) (b : Bool) (tn : String) (p : Bytes) (h : typedKey key = some (b, tn, p)) :
    ∃ sym, key = bytesOf tn ++ 40 :: (sym ++ [41]) ∧ p = bytesOf tn ++ 46 :: sym ∧ tn ∈ typeNames := by
  unfold typedKey at h
  split at h
  · cases h
  · rename_i h1
    split at h
    · cases h
    · rename_i h2
      split at h
      · cases h
      · rename_i tn' hf
        cases h
        have hty : bytesOf tn = key.takeWhile (· != 40) := by
          simpa using List.find?_some hf
        rcases split_at_first 40 key with ⟨hd, _⟩ | ⟨t, hd, hkey⟩
        · exact absurd hd h1
        · -- `t` is what follows `(`; it ends at its first `)`
          rw [hd] at h2 ⊢
          have h2' : t.dropWhile (· != 41) = [41] := Classical.not_not.mp h2
          have hs2 := List.takeWhile_append_dropWhile (p := (· != 41)) (l := t)
          rw [h2'] at hs2
          exact ⟨t.takeWhile (· != 41), by rw [hty, hs2, hkey], by rw [hty]; exact List.append_assoc _ _ _,
            List.mem_of_find?_eq_some hf⟩

theorem takeWhile_append_cons_of_not_mem (a : Nat) (l r : Bytes) (h : a ∉ l) :
    (l ++ a :: r).takeWhile (· != a) = l := by
  have hl : ∀ x ∈ l, (x != a) = true := fun x hx => bne_iff_ne.mpr fun e => h (e ▸ hx)
  rw [List.takeWhile_append_of_pos hl, List.takeWhile_cons_of_neg (by simp), List.append_nil]

theorem typeNames_no_dot : ∀ tn ∈ typeNames, (46 : Nat) ∉ bytesOf tn := by decide +kernel

theorem typedKey_inj (k k' : Bytes) (b b' : Bool) (tn tn' : String) (p : Bytes)
    (h : typedKey k = some (b, tn, p)) (h' : typedKey k' = some (b', tn', p)) : k = k' := by
  obtain ⟨sym, hk, hp, hm⟩ := typedKey_shape k b tn p h
  obtain ⟨sym', hk', hp', hm'⟩ := typedKey_shape k' b' tn' p h'
  have e : bytesOf tn ++ 46 :: sym = bytesOf tn' ++ 46 :: sym' := hp.symm.trans hp'
  have e1 := congrArg (List.takeWhile (· != 46)) e
  rw [takeWhile_append_cons_of_not_mem 46 _ _ (typeNames_no_dot tn hm),
      takeWhile_append_cons_of_not_mem 46 _ _ (typeNames_no_dot tn' hm')] at e1
  rw [e1] at e
  have e2 : sym = sym' := by
    have := List.append_cancel_left e
    simpa using this
  rw [hk, hk', e1, e2]

/-- what the typed view shows at a path -/
def shownAt (c : Ctx) (p : Bytes) : Option (Bool × Nat) := (c.typed.find p).bind Typed.shown

/-- coherence of the typed store with the line store: the typed view of a `TYPE(sym)` key is what
the key's line parses to, a key without line has no leaf, and a leaf has the type of its key (so
that a line that does not parse clears it) -/
def TInvAt (c : Ctx) (key : Bytes) (b : Bool) (p : Bytes) : Prop :=
  shownAt c p = (c.lines.find key).bind (parseTyped b) ∧
  (c.lines.find key = none → c.typed.find p = none) ∧
  ∀ t, c.typed.find p = some t → t.addr = b

def TInv (c : Ctx) : Prop :=
  ∀ key b tn p, typedKey key = some (b, tn, p) → TInvAt c key b p

theorem TInvAt.congr {c c' : Ctx} {key p : Bytes} {b : Bool} (h : TInvAt c key b p)
    (e1 : c'.lines.find key = c.lines.find key) (e2 : c'.typed.find p = c.typed.find p) :
    TInvAt c' key b p := by
  unfold TInvAt shownAt at h ⊢
  rw [e1, e2]
  exact h

theorem parseTyped_fst (b : Bool) (v : Bytes) (x : Bool × Nat) (h : parseTyped b v = some x) : x.1 = b := by
  unfold parseTyped at h
  by_cases hc : (strtou (if b then 16 else 0) v).2 ≠ []
  · rw [if_pos hc] at h; cases h
  · rw [if_neg hc] at h; cases h; rfl

theorem typedEffect_find_ne (s : Store Typed) (k v p : Bytes)
    (hne : ∀ b tn p0, typedKey k = some (b, tn, p0) → p0 ≠ p) :
    (typedEffect s k v).find p = s.find p := by
  unfold typedEffect
  split
  · rfl
  · rename_i b tn p0 hk
    have hp := hne b tn p0 hk
    split
    · exact find_put_ne _ _ _ _ hp
    · split
      · split
        · exact find_put_ne _ _ _ _ hp
        · rfl
      · rfl

theorem addRow_tinv (c : Ctx) (r : Row) (c' : Ctx) (h : addRow c r = .done .ok c') (hi : TInv c) : TInv c' := by
  have a := (addRow_effect c r .ok c' h).2 rfl
  intro key b tn p hk
  have hat := hi key b tn p hk
  rcases a.typed with ⟨ht, hsame⟩ | ht
  · -- the line already had this value: nothing changes
    refine hat.congr ?_ (by rw [ht])
    rw [a.lines, find_put]
    split
    · rename_i e; rw [← e, hsame]
    · rfl
  · by_cases hkey : r.key = key
    · -- the row of this very key: its value parses and is stored, or does not and clears the leaf
      subst hkey
      have hlk : c'.lines.find r.key = some r.val := by rw [a.lines]; exact find_put_self _ _ _
      have h3 := hat.2.2
      unfold TInvAt shownAt
      rw [hlk, ht, typedEffect, hk]
      simp only [Option.bind_some]
      cases hpt : parseTyped b r.val with
      | some x =>
        obtain ⟨b1, n⟩ := x
        obtain rfl : b1 = b := parseTyped_fst b r.val _ hpt
        simp only
        rw [find_put_self]
        exact ⟨rfl, nofun, fun t e => by cases e; rfl⟩
      | none =>
        simp only
        cases hf : c.typed.find p with
        | none =>
          simp only
          rw [hf]
          exact ⟨rfl, nofun, nofun⟩
        | some t =>
          simp only
          rw [if_pos (h3 t hf), find_put_self]
          exact ⟨rfl, nofun, fun t' e => by cases e; exact h3 t hf⟩
    · -- the row of another key: this key's line and leaf are untouched
      refine hat.congr (by rw [a.lines]; exact find_put_ne _ _ _ _ hkey) ?_
      rw [ht]
      apply typedEffect_find_ne
      intro b0 tn0 p0 h0 e
      subst e
      exact hkey (typedKey_inj _ _ _ _ _ _ _ h0 hk)

theorem addRows_tinv (rows : List Row) : ∀ (c c' : Ctx), addRows c rows = .done .ok c' → TInv c → TInv c' := by
  induction rows with
  | nil => intro c c' h hi; cases h; exact hi
  | cons r t ih =>
    intro c c' h hi
    rcases addRows_cons c r t .ok c' h with ⟨c1, h1, h2⟩ | ⟨hne, _⟩
    · exact ih _ _ h2 (addRow_tinv _ _ _ h1 hi)
    · exact absurd rfl hne

theorem vsym_cases (c : Ctx) (sym : Bytes) :
    vsym c sym = (.nodata, 0) ∨
    ∃ n, vsym c sym = (.ok, n) ∧ shownAt c (bytesOf "SYMBOL." ++ sym) = some (true, n) := by
  unfold vsym shownAt
  split
  · exact Or.inl rfl
  · split
    · exact Or.inl rfl
    · cases c.typed.find (bytesOf "SYMBOL." ++ sym) with
      | none => exact Or.inl rfl
      | some t =>
        obtain ⟨addr, val, set⟩ := t
        cases addr
        · exact Or.inl rfl
        · cases set
          · exact Or.inl rfl
          · exact Or.inr ⟨val, rfl, rfl⟩

end Kdf.Lemmas.DerivedTyped
