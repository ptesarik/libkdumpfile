import Kdf.Lemmas.ConcStep
/-!
What the property theorems of C05 (`Kdf/Props/C05.lean`) need besides the invariant: the
alternatives of `step` that touch the cache or can fail, enabledness of the protocol steps under
the invariant (progress), and the count of in-flight reads behind a refused lookup.
-/
namespace Kdf.Lemmas.Conc
open Kdf.Model.Cache Kdf.Model.Conc Kdf.Lemmas.Cache Kdf.Lemmas.ConcCache

variable {cap n : Nat} {s s' : State} {t : Nat}

theorem holders_zero_of_quiescent (hq : quiescent s) (i : Nat) : holders s i = 0 := by
  unfold holders
  rw [List.length_eq_zero_iff, List.filter_eq_nil_iff]
  intro th hth
  rw [hq th hth]
  simp [Pc.holds]

theorem doFill_cache {ok : Bool} {pc : Pc} (h : doFill s t ok pc = .ok s') :
    s'.cache = s.cache := by
  unfold doFill at h
  split at h
  · cases h
  · cases h; rfl

theorem doCopy_cache {e : Nat} (h : doCopy s t e = .ok s') :
    s'.cache = s.cache := by
  unfold doCopy at h
  split at h
  · cases h
  · cases h; rfl

theorem step_cache_change {cfg : Cfg} {ev : Ev}
    (hs : Kdf.Model.Conc.step cfg s t ev = .ok s') (hne : s'.cache ≠ s.cache) :
    ((s.thread t).pc.hasLock = true ∧ needLock ev = true) ∨
      (ev = .store ∧ ∃ e tmp, (s.thread t).pc = .putU e tmp) := by
  obtain ⟨-, pc, r, hpc, ha, hr⟩ := step_alt hs nofun
  clear hs
  rw [hpc]
  cases ha
  case get | insert | discard | put => exact Or.inl ⟨rfl, rfl⟩
  case store e tmp => exact Or.inr ⟨rfl, e, tmp, rfl⟩
  case fillLocked | fillEnd => exact absurd (doFill_cache hr) hne
  case copy => exact absurd (doCopy_cache hr) hne
  case copyEarly =>
    split at hr
    · exact absurd (doCopy_cache hr) hne
    · cases hr
  case wrunlock | rdunlock | unlock1 | unlockHit | unlockMiss | unlockFill =>
    cases hr; exact absurd rfl hne
  case rdlock | wrlock | lockRead | lockFill | lockFilled | load =>
    split at hr <;> cases hr
    exact absurd rfl hne
  case lockPut =>
    split at hr
    · split at hr <;> cases hr
      exact absurd rfl hne
    · cases hr

theorem doFill_err {ok : Bool} {pc : Pc} {x : Err} (h : doFill s t ok pc = .err x) :
    (s.thread t).dat = none := by
  unfold doFill at h
  split at h
  · assumption
  · cases h

theorem doCopy_err {e : Nat} {x : Err} (h : doCopy s t e = .err x) :
    (s.thread t).dat = none := by
  unfold doCopy at h
  split at h
  · assumption
  · cases h

theorem step_err {cfg : Cfg} {ev : Ev} {x : Err}
    (hs : Kdf.Model.Conc.step cfg s t ev = .err x) :
    t < s.thr.length ∧
    ((∃ k, Kdf.Model.Cache.get s.cache k = .error x) ∨
     (∃ e, (s.thread t).pc.holds = some e ∧
        ((s.thread t).dat = none ∨ insert s.cache e = .error x ∨ discard s.cache e = .error x ∨
          put s.cache e = .error x))) := by
  obtain ⟨ht, pc, r, hpc, ha, hr⟩ := step_alt hs nofun
  clear hs
  refine ⟨ht, ?_⟩
  rw [hpc]
  cases ha
  case get k =>
    split at hr <;> cases hr
    exact Or.inl ⟨k, ‹_›⟩
  case fillLocked e ok | fillEnd e ok => exact Or.inr ⟨e, rfl, Or.inl (doFill_err hr)⟩
  case copy e => exact Or.inr ⟨e, rfl, Or.inl (doCopy_err hr)⟩
  case copyEarly e =>
    split at hr
    · exact Or.inr ⟨e, rfl, Or.inl (doCopy_err hr)⟩
    · cases hr
  case insert e =>
    split at hr <;> cases hr
    exact Or.inr ⟨e, rfl, Or.inr (Or.inl ‹_›)⟩
  case discard e =>
    split at hr <;> cases hr
    exact Or.inr ⟨e, rfl, Or.inr (Or.inr (Or.inl ‹_›))⟩
  case put e =>
    split at hr <;> cases hr
    exact Or.inr ⟨e, rfl, Or.inr (Or.inr (Or.inr ‹_›))⟩
  case wrunlock | rdunlock | unlock1 | unlockHit | unlockMiss | unlockFill | store => cases hr
  case rdlock | wrlock | lockRead | lockFill | lockFilled | load => split at hr <;> cases hr
  case lockPut =>
    split at hr
    · split at hr <;> cases hr
    · cases hr

theorem GInv.get_ok (h : GInv cap n s) (k : Nat) (x : Err) :
    Kdf.Model.Cache.get s.cache k ≠ .error x := by
  obtain ⟨c', o, hg, -⟩ := get_spec ((inv_iff _).1 h.cinv) k
  rw [hg]; intro hh; cases hh

theorem GInv.dat (h : GInv cap n s) {e : Nat}
    (hh : (s.thread t).pc.holds = some e) : ∃ d, (s.thread t).dat = some d := by
  obtain ⟨hl, -, hd⟩ := h.hold t e hh
  have := h.cinv.live_data e hl
  unfold hasData at this
  rw [hd]
  exact Option.isSome_iff_exists.1 this

theorem GInv.can_insert (h : GInv cap n s) {e : Nat}
    (hh : (s.thread t).pc.holds = some e) : ∃ c' o, insert s.cache e = .ok (c', o) :=
  insert_ok h.cinv (h.hold t e hh).1

theorem GInv.can_discard (h : GInv cap n s) {e : Nat}
    (hh : (s.thread t).pc.holds = some e) : ∃ c' o, discard s.cache e = .ok (c', o) :=
  discard_ok h.cinv (h.hold t e hh).1 (refcnt_ne_zero_of_holds h hh)

theorem GInv.can_put (h : GInv cap n s) {e : Nat}
    (hh : (s.thread t).pc.holds = some e) : ∃ c' o, put s.cache e = .ok (c', o) :=
  ⟨_, _, put_eq (refcnt_ne_zero_of_holds h hh)⟩

theorem GInv.no_err (h : GInv cap n s) (t : Nat) (ev : Ev) (x : Err) :
    Kdf.Model.Conc.step fixed s t ev ≠ .err x := by
  intro hs
  obtain ⟨-, ⟨k, hk⟩ | ⟨e, hh, hd | hi | hd | hp⟩⟩ := step_err hs
  · exact GInv.get_ok h k x hk
  · obtain ⟨d, hd'⟩ := GInv.dat h hh
    rw [hd] at hd'; cases hd'
  · obtain ⟨c', o, hi'⟩ := GInv.can_insert h hh
    rw [hi] at hi'; cases hi'
  · obtain ⟨c', o, hi'⟩ := GInv.can_discard h hh
    rw [hd] at hi'; cases hi'
  · obtain ⟨c', o, hi'⟩ := GInv.can_put h hh
    rw [hp] at hi'; cases hi'

theorem exists_not_idle (hq : ¬ quiescent s) :
    ∃ t, t < s.thr.length ∧ (s.thread t).pc ≠ .idle := by
  apply Decidable.byContradiction
  intro hn
  apply hq
  intro th hth
  apply Decidable.byContradiction
  intro hp
  obtain ⟨t, ht, rfl⟩ := mem_thread hth
  exact hn ⟨t, ht, hp⟩

theorem progress_owner (g : GInv cap n s) (hl : s.lock = some t) :
    ∃ ev s', Kdf.Model.Conc.step fixed s t ev = .ok s' := by
  have hh := (g.lockA t).2 hl
  have hlt : ¬ t ≥ s.thr.length := by
    apply Nat.not_le.2
    apply lt_of_pc_ne_idle
    intro hp; rw [hp] at hh; cases hh
  cases hpc : (s.thread t).pc <;> rw [hpc] at hh <;> first | (cases hh; done) | skip
  case locked1 | hitL | missL | fillL =>
    refine ⟨.unlock, ?_⟩
    simp only [Kdf.Model.Conc.step, hlt, hpc, if_false]
    exact ⟨_, rfl⟩
  case locked2 e ok =>
    have hho : (s.thread t).pc.holds = some e := by rw [hpc]; rfl
    cases ok
    · obtain ⟨c', o, hd⟩ := GInv.can_discard g hho
      refine ⟨.discard, ?_⟩
      simp only [Kdf.Model.Conc.step, hlt, hpc, if_false, hd]
      exact ⟨_, rfl⟩
    · obtain ⟨c', o, hd⟩ := GInv.can_insert g hho
      refine ⟨.insert, ?_⟩
      simp only [Kdf.Model.Conc.step, hlt, hpc, if_false, hd]
      exact ⟨_, rfl⟩
  case putL e =>
    have hho : (s.thread t).pc.holds = some e := by rw [hpc]; rfl
    obtain ⟨c', o, hd⟩ := GInv.can_put g hho
    refine ⟨.put, ?_⟩
    simp only [Kdf.Model.Conc.step, hlt, hpc, if_false, hd]
    exact ⟨_, rfl⟩

theorem progress_free (g : GInv cap n s) (hl : s.lock = none) {t : Nat}
    (hne : (s.thread t).pc ≠ .idle) : ∃ ev s', Kdf.Model.Conc.step fixed s t ev = .ok s' := by
  have hlt : ¬ t ≥ s.thr.length := Nat.not_le.2 (lt_of_pc_ne_idle hne)
  have hnl : (s.thread t).pc.hasLock = false := by
    cases hb : (s.thread t).pc.hasLock
    · rfl
    · have := (g.lockA t).1 hb; rw [hl] at this; cases this
  have hli : s.lock.isSome = false := by rw [hl]; rfl
  have hfx : fixed.lockedPut = true := rfl
  cases hpc : (s.thread t).pc <;> rw [hpc] at hnl <;> first | (cases hnl; done) | skip
  case idle => exact absurd hpc hne
  case writing =>
    refine ⟨.wrunlock, ?_⟩
    simp only [Kdf.Model.Conc.step, hlt, hpc, if_false]
    exact ⟨_, rfl⟩
  case inRead | filled =>
    refine ⟨.lock, ?_⟩
    simp only [Kdf.Model.Conc.step, hlt, hpc, if_false, hli, Bool.false_eq_true]
    exact ⟨_, rfl⟩
  case fill e =>
    have hho : (s.thread t).pc.holds = some e := by rw [hpc]; rfl
    obtain ⟨d, hd⟩ := GInv.dat g hho
    refine ⟨.fillEnd true, ?_⟩
    simp only [Kdf.Model.Conc.step, hlt, hpc, if_false, doFill, hd]
    exact ⟨_, rfl⟩
  case copy e =>
    have hho : (s.thread t).pc.holds = some e := by rw [hpc]; rfl
    obtain ⟨d, hd⟩ := GInv.dat g hho
    refine ⟨.copy, ?_⟩
    simp only [Kdf.Model.Conc.step, hlt, hpc, if_false, doCopy, hd]
    exact ⟨_, rfl⟩
  case put0 e =>
    refine ⟨.lock, ?_⟩
    simp only [Kdf.Model.Conc.step, hlt, hpc, if_false, hli, Bool.false_eq_true, hfx, if_true]
    exact ⟨_, rfl⟩
  case putU e tmp => exact absurd hpc (g.noPutU t e tmp)

theorem GInv.progress (g : GInv cap n s) (hq : ¬ quiescent s) :
    ∃ t ev s', Kdf.Model.Conc.step fixed s t ev = .ok s' := by
  cases hl : s.lock with
  | some t0 => exact ⟨t0, progress_owner g hl⟩
  | none =>
    obtain ⟨t, -, hne⟩ := exists_not_idle hq
    exact ⟨t, progress_free g hl hne⟩

/-- Distinct entries, each held by some thread of `l`, are at most as many as the threads of `l` that
hold something. -/
theorem nodup_held_length_le_holding (l : List Thread) : ∀ R : List Nat, R.Nodup →
    (∀ i ∈ R, 0 < (l.filter fun th => th.pc.holds = some i).length) →
    R.length ≤ (l.filter fun th => th.pc.holds.isSome).length := by
  induction l with
  | nil =>
    intro R _ hpos
    cases R with
    | nil => exact Nat.le_refl 0
    | cons a R => exact absurd (hpos a (List.mem_cons_self ..)) (Nat.lt_irrefl 0)
  | cons th l ih =>
    intro R hnd hpos
    simp only [← List.countP_eq_length_filter, List.countP_cons, decide_eq_true_eq] at hpos ih ⊢
    -- an entry that `th` does not hold has its holder in `l`
    have hrest : ∀ i ∈ R, th.pc.holds ≠ some i →
        0 < l.countP fun th => decide (th.pc.holds = some i) := by
      intro i hi hne
      have := hpos i hi
      rw [if_neg hne] at this
      exact this
    cases hth : th.pc.holds with
    | none =>
      have := ih R hnd fun i hi => hrest i hi (by rw [hth]; nofun)
      omega
    | some a =>
      by_cases ha : a ∈ R
      · -- `th` accounts for `a`, the other threads for the rest
        have h1 := List.length_erase_of_mem ha
        have h2 := List.length_pos_of_mem ha
        have := ih (R.erase a) (hnd.erase a) fun i hi => hrest i (List.mem_of_mem_erase hi) (by
          rw [hth]
          intro h
          exact ((List.Nodup.mem_erase_iff hnd).1 hi).1 (Option.some.inj h).symm)
        rw [Option.isSome_some, if_pos rfl]
        omega
      · have := ih R hnd fun i hi => hrest i hi (by
          rw [hth]
          intro h
          exact ha (Option.some.inj h ▸ hi))
        omega

/-- Pinned cached entries and in-flight entries are distinct and each has a holder, so
`cap ≤ pinned + |F| ≤` the number of threads that hold something. -/
theorem GInv.busy_full (g : GInv cap n s) {k : Nat} {c' : Cache}
    (hb : Kdf.Model.Cache.get s.cache k = .ok (c', .busy)) : cap ≤ inFlightReads s := by
  obtain ⟨-, -, -, -, -, hfull⟩ := get_spec_of_ok ((inv_iff _).1 g.cinv) hb
  rw [g.ccap] at hfull
  let R := (s.cache.B.filter fun i => s.cache.refcnt i ≠ 0) ++
    (s.cache.P.filter fun i => s.cache.refcnt i ≠ 0) ++ s.cache.F
  have hlen : R.length = s.cache.pinned + s.cache.F.length := by
    simp only [R, List.length_append, Cache.pinned]; omega
  have hsub : R.Sublist (live s.cache) :=
    ((List.filter_sublist).append (List.filter_sublist)).append (List.Sublist.refl _)
  have hndl : (live s.cache).Nodup := List.Pairwise.of_map _ (fun a b h hab => h (by rw [hab])) g.cinv.keys_nodup
  have hnd : R.Nodup := hndl.sublist hsub
  have hpos : ∀ i ∈ R, 0 < holders s i := by
    intro i hi
    have hr : s.cache.refcnt i ≠ 0 := by
      simp only [R, List.mem_append, List.mem_filter, decide_eq_true_eq] at hi
      rcases hi with (⟨-, h⟩ | ⟨-, h⟩) | h
      · exact h
      · exact h
      · exact g.cinv.inflight_ref i h
    rw [g.ref i] at hr
    omega
  have := nodup_held_length_le_holding s.thr R hnd hpos
  unfold inFlightReads
  omega

theorem run_reach_from (cfg : Cfg) (cap n : Nat) :
    ∀ (sched : List (Nat × Ev)) (s0 s : State), Reach cfg cap n s0 → run cfg s0 sched = .ok s →
      Reach cfg cap n s
  | [], s0, s, h0, hr => by
    simp only [Kdf.Model.Conc.run, Res.ok.injEq] at hr
    exact hr ▸ h0
  | (t, ev) :: rest, s0, s, h0, hr => by
    simp only [Kdf.Model.Conc.run] at hr
    split at hr
    · rename_i s1 hst
      exact run_reach_from cfg cap n rest s1 s (Reach.step h0 hst) hr
    · rename_i hno
      exact absurd hr (hno s)

end Kdf.Lemmas.Conc
