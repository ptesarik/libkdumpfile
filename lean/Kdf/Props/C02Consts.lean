import Kdf.Gen.PgtConsts
/-!
# C02 — the literals of the page-table models are the values of the C macros

`Kdf.Gen.PgtConsts` is regenerated from `src/addrxlat/<arch>.c` on every run:
the value of every bit-field macro the handlers use (for a field extractor
`F`: the set of input bits it looks at and `F(~0)`).  The models in
`Kdf/Model/Pgt*.lean` are written with literals; this theorem states that those
literals are the values of the macros in the checked source tree.  If a mask or shift changes in the C
code the theorem stops compiling, and the check then searches implementation
versus architectural specification for a concrete failing translation.
-/
namespace Kdf.Props.C02Consts
open Kdf.Gen.PgtConsts

theorem consts_x86_64 :
    x86_64_PHYSADDR_MASK = 2^52 - 1 ∧ x86_64_PAGE_PRESENT = 2^0 ∧ x86_64_PAGE_PSE = 2^7 ∧
    x86_64_PAGE_MASK = 2^12 - 1 ∧ x86_64_PAGE_MASK_2M = 2^21 - 1 ∧ x86_64_PAGE_MASK_1G = 2^30 - 1 := by decide

theorem consts_ia32 :
    ia32_PHYSADDR_MASK_PAE = 2^52 - 1 ∧ ia32_PAGE_PRESENT = 1 ∧ ia32_PAGE_PSE = 2^7 ∧ ia32_PAGE_MASK = 2^12 - 1 ∧
    ia32_PAGE_MASK_2M = 2^21 - 1 ∧ ia32_PAGE_MASK_4M = 2^22 - 1 ∧
    ia32_pgd_pse_high_in = (2^8 - 1) * 2^13 ∧ ia32_pgd_pse_high_all = (2^8 - 1) * 2^32 := by decide

theorem consts_riscv64 :
    riscv64_PAGE_MASK = 2^12 - 1 ∧ riscv64_PTE_VALID_in = 1 ∧ riscv64_PTE_VALID_all = 1 ∧
    riscv64_PTE_PERM_in = 7 * 2 ∧ riscv64_PTE_PERM_all = 7 ∧
    riscv64_PTE_PPN_in = (2^44 - 1) * 2^10 ∧ riscv64_PTE_PPN_all = 2^44 - 1 := by decide

theorem consts_aarch64 :
    aarch64_PA_MASK = 2^48 - 1 ∧ aarch64_MAX_REGION_MASK = 2^30 - 1 ∧ aarch64_MAX_REGION_MASK_LPA = 2^42 - 1 ∧
    aarch64_MAX_REGION_MASK_LPA2 = 2^39 - 1 ∧ aarch64_PTE_VALID_in = 1 ∧ aarch64_PTE_TYPE_in = 3 ∧ aarch64_PTE_TYPE_all = 3 := by decide

theorem consts_s390x :
    s390x_PAGE_MASK = 2^12 - 1 ∧ s390x_PTO_MASK = 2^11 - 1 ∧ s390x_SFAA_MASK = 2^20 - 1 ∧ s390x_RFAA_MASK = 2^31 - 1 ∧
    s390x_RSTE_FC_in = 2^10 ∧ s390x_RSTE_I_in = 2^5 ∧ s390x_RSTE_TF_in = 3 * 2^6 ∧ s390x_RSTE_TF_all = 3 ∧
    s390x_RSTE_TT_in = 3 * 2^2 ∧ s390x_RSTE_TT_all = 3 ∧ s390x_RSTE_TL_in = 3 ∧ s390x_RSTE_TL_all = 3 ∧ s390x_PTE_I_in = 2^10 := by decide

theorem consts_arm :
    arm_PHYSADDR_MASK = 2^40 - 1 ∧ arm_SMALL_PAGE_MASK = 2^12 - 1 ∧ arm_LARGE_PAGE_MASK = 2^16 - 1 ∧ arm_PAGE_TABLE_MASK = 2^10 - 1 ∧
    arm_SECT_MASK = 2^20 - 1 ∧ arm_SUPERSECT_MASK = 2^24 - 1 ∧ arm_PTE_TYPE_in = 3 ∧ arm_PTE_SECTYPE_in = 2^18 ∧
    arm_SUPERSECT_32_35_in = 15 * 2^20 ∧ arm_SUPERSECT_32_35_all = 15 ∧ arm_SUPERSECT_36_39_in = 15 * 2^5 ∧ arm_SUPERSECT_36_39_all = 15 := by decide

theorem consts_ppc64 :
    ppc64_PD_HUGE = 2^63 ∧ ppc64_HUGEPD_SHIFT_MASK = 63 ∧ ppc64_HUGE_PTE_MASK = 3 ∧ ppc64_PAGE_SHIFT_64K = 16 ∧ ppc64_PTE_SHIFT = 3 := by decide

end Kdf.Props.C02Consts
