import Kdf.Lemmas.PgtSim
/-! C02: `first_step`, and the page-table theorem assembled from it and the per-format step lemmas. -/
namespace Kdf.Lemmas.Pgt
open Kdf.Model.Pgt Kdf.Spec.ArchWalk Kdf.Model.PgtArch Kdf.Lemmas.PgtWalk

variable (mem : Mem) (t : Nat) (root : FullAddr) (pteMask : Nat) (pf : PagingForm) (va : Nat)

/-- the state produced by `first_step_pgt_generic` -/
def initStep : Step :=
  { base := root, remain := pf.fieldsz.length,
    elemsz := if pf.fieldsz.length > 1 then
      (match ptevalShift pf.fmt with | some k => 2^k | none => 0) else 1,
    idx := firstStepPgtGeneric.split pf.fieldsz va ++
      List.replicate (9 - (firstStepPgtGeneric.split pf.fieldsz va).length) 0,
    raw := 0 }

theorem firstStepPgtGeneric_ok (hroot : root.as ≠ NOADDR) :
    firstStepPgtGeneric root pf va = .ok (initStep root pf va) := by
  simp only [firstStepPgtGeneric, hroot, if_false]
  rfl

theorem initStep_idxOK (hl : ∀ b ∈ pf.fieldsz, b < 64) : IdxOK pf va (initStep root pf va).idx :=
  idxOK_first pf va hl

theorem initStep_top (hl : ∀ b ∈ pf.fieldsz, b < 64) :
    idxAt (initStep root pf va) pf.fieldsz.length = va / 2^(spanBits pf.fieldsz pf.fieldsz.length) := by
  rw [← split_getD_top _ _ hl]
  show List.getD (_ ++ _) _ 0 = _
  rw [List.getD_eq_getElem?_getD, List.getElem?_append_left (by rw [split_length]; omega),
    ← List.getD_eq_getElem?_getD]

/-- the common shape of `first_step` for the specified formats -/
def FirstOK (canon : Canon) (t : Nat) (root : FullAddr) (pteMask : Nat) (pf : PagingForm) (va : Nat) : Prop :=
  firstStep (.pgt t root pteMask pf) va =
    if root.as = NOADDR then .error .nodata
    else if !canonical canon (spanBits pf.fieldsz pf.fieldsz.length) va then .error .invalid
    else .ok (initStep root pf va)

theorem firstOK_unsigned
    (h : firstStep (.pgt t root pteMask pf) va = firstStepPgtGeneric root pf va >>= checkUaddr pf)
    (hl : ∀ b ∈ pf.fieldsz, b < 64) : FirstOK .unsigned t root pteMask pf va := by
  unfold FirstOK
  rw [h]
  by_cases hroot : root.as = NOADDR
  · simp [firstStepPgtGeneric, hroot, bind, Except.bind]
  · rw [firstStepPgtGeneric_ok _ _ _ hroot]
    simp only [hroot, if_false, bind, Except.bind, checkUaddr, initStep_top _ _ _ hl, canonical]
    simp

theorem firstOK_signed
    (h : firstStep (.pgt t root pteMask pf) va = firstStepPgtGeneric root pf va >>= checkSaddr pf)
    (hl : ∀ b ∈ pf.fieldsz, b < 64) (hn : 1 ≤ pf.fieldsz.length)
    (hlast : 1 ≤ pf.fieldsz.getD (pf.fieldsz.length - 1) 0) :
    FirstOK .signed t root pteMask pf va := by
  unfold FirstOK
  rw [h]
  by_cases hroot : root.as = NOADDR
  · simp [firstStepPgtGeneric, hroot, bind, Except.bind]
  · rw [firstStepPgtGeneric_ok _ _ _ hroot]
    -- the sign bit is the top bit of the last field
    have htop : idxAt (initStep root pf va) (pf.fieldsz.length - 1) /
        2^(fieldAt pf (pf.fieldsz.length - 1) - 1) % 2 =
        va / 2^(spanBits pf.fieldsz pf.fieldsz.length - 1) % 2 := by
      obtain ⟨n, hn'⟩ : ∃ n, pf.fieldsz.length = n + 1 := ⟨_, (Nat.sub_add_cancel hn).symm⟩
      rw [hn', Nat.add_sub_cancel] at hlast ⊢
      rw [idxAt, (initStep_idxOK root pf va hl).2 n (by omega), fieldAt,
        mod_pow_div_pow _ _ _ (Nat.sub_le _ _), Nat.sub_sub_self hlast, Nat.pow_one, Nat.mod_mod,
        Nat.div_div_eq_div_mul, ← Nat.pow_add, span_succ]
      congr 3
      omega
    simp only [hroot, if_false, bind, Except.bind, checkSaddr, initStep_top _ _ _ hl, canonical,
      htop, vaddrBits_eq]
    generalize spanBits pf.fieldsz pf.fieldsz.length = vb
    by_cases hb : va / 2^(vb - 1) % 2 = 1 <;> simp [hb]

/-- first step as in `FirstOK` and `StepSim` at every level: `walk` is `archWalk` -/
theorem walk_pgt_generic (decode : Nat → Nat → Desc) (canon : Canon) (sz : Nat)
    (hn : 1 ≤ pf.fieldsz.length) (hl : ∀ b ∈ pf.fieldsz, b < 64)
    (hfirst : FirstOK canon t root pteMask pf va)
    (helem : 2 ≤ pf.fieldsz.length → (initStep root pf va).elemsz = sz)
    (hsim : StepSim decode mem t pteMask pf sz va) :
    (walk extra mem (.pgt t root pteMask pf) va).map (·.base) =
      archWalk decode canon mem t root pteMask pf.fieldsz sz va := by
  unfold walk archWalk
  rw [hfirst]
  by_cases hroot : root.as = NOADDR
  · simp only [if_pos hroot]; rfl
  by_cases hc : (!canonical canon (spanBits pf.fieldsz pf.fieldsz.length) va) = true
  · simp only [if_neg hroot, if_pos hc]; rfl
  simp only [if_neg hroot, if_neg hc]
  obtain ⟨r, hr⟩ : ∃ r, pf.fieldsz.length = r + 1 := ⟨pf.fieldsz.length - 1, by omega⟩
  have hrem : (initStep root pf va).remain = r + 1 := hr
  simp only [hrem, Nat.succ_ne_zero, if_false, hr, Nat.add_sub_cancel]
  refine walkLoop_descend decode mem t root pteMask pf sz va hsim r (r+1+1)
    (initStep root pf va) (by omega) hrem (by omega) ?_ (initStep_idxOK root pf va hl)
  split
  · show (if pf.fieldsz.length > 1 then _ else 1) = 1
    rw [if_neg (by omega)]
  · exact helem (by omega)

structure ArchFields (pf : PagingForm) : Prop where
  len : 1 ≤ pf.fieldsz.length
  lt64 : ∀ b ∈ pf.fieldsz, b < 64
  last : 1 ≤ pf.fieldsz.getD (pf.fieldsz.length - 1) 0
  span : spanBits pf.fieldsz pf.fieldsz.length ≤ 64
  page12 : pf.fmt = .riscv64 → pf.fieldsz.getD 0 0 = 12

theorem fields_of_form (hform : archForm pf = true) : ArchFields pf := by
  obtain ⟨fmt, fields⟩ := pf
  cases fmt
  case pfn32 | pfn64 =>
    simp only [archForm, Bool.and_eq_true, decide_eq_true_eq, List.all_eq_true] at hform
    obtain ⟨⟨h1, h2⟩, h3⟩ := hform
    have hlast : fields.getD (fields.length - 1) 0 ∈ fields := by
      rw [List.getD_eq_getElem?_getD, List.getElem?_eq_getElem (by omega)]
      exact List.getElem_mem _
    exact ⟨h1, fun b hb => (h2 b hb).2, (h2 _ hlast).1, h3, nofun⟩
  case ia32 | ia32Pae =>
    simp only [archForm, decide_eq_true_eq] at hform
    subst hform
    exact ⟨by decide, by decide, by decide, by decide, nofun⟩
  case x86_64 =>
    simp only [archForm, Bool.or_eq_true, decide_eq_true_eq] at hform
    rcases hform with rfl | rfl <;> exact ⟨by decide, by decide, by decide, by decide, nofun⟩
  case riscv64 =>
    simp only [archForm, Bool.or_eq_true, decide_eq_true_eq] at hform
    rcases hform with (rfl | rfl) | rfl <;>
      exact ⟨by decide, by decide, by decide, by decide, fun _ => rfl⟩
  all_goals exact absurd hform Bool.false_ne_true

theorem initStep_elemsz (h : 2 ≤ pf.fieldsz.length)
    {k : Nat} (hk : ptevalShift pf.fmt = some k) : (initStep root pf va).elemsz = 2^k := by
  show (if pf.fieldsz.length > 1 then (match ptevalShift pf.fmt with | some k => 2^k | none => 0)
    else 1) = _
  rw [if_pos (show pf.fieldsz.length > 1 from h), hk]

theorem initStep_elemsz_of_spec (h : 2 ≤ pf.fieldsz.length)
    (decode : Nat → Nat → Desc) (canon : Canon) (sz : Nat)
    (hspec : formatSpec pf = some (decode, canon, sz)) : (initStep root pf va).elemsz = sz := by
  obtain ⟨fmt, fields⟩ := pf
  cases fmt
  case pfn32 | pfn64 | ia32 | ia32Pae | x86_64 | riscv64 =>
    cases hspec
    exact initStep_elemsz _ _ _ h rfl
  all_goals cases hspec

theorem firstOK_of_form (hform : archForm pf = true)
    (decode : Nat → Nat → Desc) (canon : Canon) (sz : Nat)
    (hspec : formatSpec pf = some (decode, canon, sz)) : FirstOK canon t root pteMask pf va := by
  have hF := fields_of_form pf hform
  obtain ⟨fmt, fields⟩ := pf
  cases fmt
  case pfn32 | pfn64 | ia32 | ia32Pae =>
    cases hspec
    exact firstOK_unsigned _ _ _ _ _ rfl hF.lt64
  case x86_64 | riscv64 =>
    cases hspec
    exact firstOK_signed _ _ _ _ _ rfl hF.lt64 hF.len hF.last
  all_goals cases hspec

theorem stepSim_of_form (hmem : pf.fmt = .ia32 → MemWF mem) (hform : archForm pf = true)
    (hmask : pteMask < W)
    (decode : Nat → Nat → Desc) (canon : Canon) (sz : Nat)
    (hspec : formatSpec pf = some (decode, canon, sz)) : StepSim decode mem t pteMask pf sz va := by
  have hF := fields_of_form pf hform
  obtain ⟨fmt, fields⟩ := pf
  cases fmt
  case pfn32 => cases hspec; exact stepSim_pfn mem t pteMask _ va 4 (.inl ⟨rfl, rfl⟩) hmask
  case pfn64 => cases hspec; exact stepSim_pfn mem t pteMask _ va 8 (.inr ⟨rfl, rfl⟩) hmask
  case ia32 => cases hspec; exact stepSim_ia32 mem t pteMask _ va (hmem rfl) rfl hmask hF.span
  case ia32Pae => cases hspec; exact stepSim_ia32Pae mem t pteMask _ va rfl hmask hF.span
  case x86_64 => cases hspec; exact stepSim_x86_64 mem t pteMask _ va rfl hmask hF.span
  case riscv64 =>
    cases hspec; exact stepSim_riscv64 mem t pteMask _ va rfl hmask (hF.page12 rfl) hF.span
  all_goals cases hspec

theorem specXlat_pgt (decode : Nat → Nat → Desc) (canon : Canon) (sz : Nat)
    (hspec : formatSpec pf = some (decode, canon, sz)) :
    specXlat mem (.pgt t root pteMask pf) va =
      archWalk decode canon mem t root pteMask pf.fieldsz sz va := by
  rw [specXlat, hspec]

/-- `MemWF` is needed for PSE-36 only: the extra address bits must not overlap a 32-bit entry -/
theorem walk_pgt_form (hmem : pf.fmt = .ia32 → MemWF mem) (hform : archForm pf = true)
    (hmask : pteMask < W)
    (decode : Nat → Nat → Desc) (canon : Canon) (sz : Nat)
    (hspec : formatSpec pf = some (decode, canon, sz)) :
    (walk extra mem (.pgt t root pteMask pf) va).map (·.base) =
      specXlat mem (.pgt t root pteMask pf) va := by
  have hF := fields_of_form pf hform
  rw [specXlat_pgt mem t root pteMask pf va decode canon sz hspec]
  exact walk_pgt_generic mem t root pteMask pf va decode canon sz hF.len hF.lt64
    (firstOK_of_form t root pteMask pf va hform decode canon sz hspec)
    (fun h => initStep_elemsz_of_spec root pf va h decode canon sz hspec)
    (stepSim_of_form mem t pteMask pf va hmem hform hmask decode canon sz hspec)

theorem walk_noncanonical (canon : Canon) (hroot : root.as ≠ NOADDR)
    (hfirst : FirstOK canon t root pteMask pf va)
    (hnc : canonical canon (spanBits pf.fieldsz pf.fieldsz.length) va = false) :
    walk extra mem (.pgt t root pteMask pf) va = .error .invalid := by
  unfold walk
  rw [hfirst]
  simp only [hroot, if_false, hnc, Bool.not_false, if_true]

end Kdf.Lemmas.Pgt
