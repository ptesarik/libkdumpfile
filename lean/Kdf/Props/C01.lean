import Kdf.Model.Dump
import Kdf.Lemmas.DumpRle
import Kdf.Lemmas.DumpElf
import Kdf.Lemmas.DumpLookup
import Kdf.Lemmas.DumpFault
/-!
# C01 — reads return exactly the memory the dump file encodes

The model
(`Kdf/Model/Dump.lean`) answers, for a page of a dump, *which file bytes or
zeroes* make up that page; the theorems say that this answer is the one the
layout of the file encodes:

* ELF: a page is missing exactly when none of its bytes is backed; otherwise it
  consists of the file bytes of the LOAD segments it intersects and zeroes
  elsewhere, whichever segment was looked up before (`last_load`);
* diskdump: the descriptor of frame `p` lies at `descoff + 24·rank(p)` iff the
  bit of `p` is set in the window of the file; excluded / out-of-bounds
  otherwise (what the descriptor then says about data location and method is
  taken over from the model, not characterised);
* SADUMP: data of frame `p` lies at `rank(p)` pages into the concatenated data
  areas of the disks;
* LKCD: after any history of reads, the search finds the descriptor of `p` at
  its place in the page stream, or reports missing data;
* LKCD RLE: the decoder inverts the encoder, never reads past its source and
  never writes past its destination.

Not proved here (observed by the differential only): header parsing (the five
geometry attributes), s390 (one comparison and one addition), the real
zlib/snappy/zstd decompressors, split-file selection beyond `find_pfn_file_map`
(C07/C11), the representation of the LKCD index as a three-level block table.
-/

namespace Kdf.Props.C01
open Kdf.Model.Pfn Kdf.Model.Dump Kdf.Lemmas.Pfn Kdf.Lemmas.DumpElf Kdf.Lemmas.DumpLookup

/-! ### LKCD run-length code -/

/-- `uncompress_rle` never reads past `src`, never writes past `dst`; a successful
result has at most `dstlen` bytes — for every byte string and every buffer size. -/
theorem rle_total (src : List Nat) (dstlen : Nat) :
    uncompressRle src dstlen ≠ .oobRead ∧ uncompressRle src dstlen ≠ .oobWrite ∧
    ∀ out, uncompressRle src dstlen = .ok out → out.length ≤ dstlen :=
  Kdf.Lemmas.DumpRle.rle_total src dstlen

/-- decoding what the LKCD encoder wrote gives the page back -/
theorem rle_roundtrip (x : List Nat) (dstlen : Nat) (h : x.length ≤ dstlen) :
    uncompressRle (rleEncode x) dstlen = .ok x :=
  Kdf.Lemmas.DumpRle.rle_roundtrip x dstlen h

/-- a destination that is too small is an error, not a truncated page -/
theorem rle_short_dst (x : List Nat) (dstlen : Nat) (h : dstlen < x.length) :
    uncompressRle (rleEncode x) dstlen = .err := by
  rw [Kdf.Lemmas.DumpRle.uncompressRle_rleEncode, if_pos h]

/-! ### ELF -/

/-- The remembered segment (`last_load` / `last_vload`) never changes the answer. -/
theorem elf_history_irrelevant (sorted vsorted : List LoadSeg) (kv zx : Bool)
    (h : SegsWF (arrOf sorted vsorted kv) kv) (last : ElfLast) (addr sz : Nat) :
    (elfGetPage sorted vsorted last kv zx addr sz).2 = (elfGetPage sorted vsorted {} kv zx addr sz).2 := by
  rw [elfGetPage_snd sorted vsorted kv h zx last, elfGetPage_snd sorted vsorted kv h zx {}]

/-- For
segments sorted by address with disjoint memory extents, any page address, any
page size, either address space, either `zero_excluded` setting and any lookup
history: the page is reported missing exactly when no byte of it is backed
(by file data; by a memory extent if excluded pages are to be zero-filled);
otherwise it is delivered and every byte is the file byte the segment list
encodes for that address, zero where no file data exists; the assembly loop of
`elf_read_page` never leaves the page buffer. -/
theorem elf_page_spec (sorted vsorted : List LoadSeg) (kv zx : Bool)
    (h : SegsWF (arrOf sorted vsorted kv) kv) (last : ElfLast) (file : Nat → Nat) (addr sz : Nat) (hsz : 0 < sz) :
    let r := (elfGetPage sorted vsorted last kv zx addr sz).2
    (r = (if kv then ElfPage.needXlat else ElfPage.nodata) ↔
        ¬ ∃ a, addr ≤ a ∧ a < addr + sz ∧ Backed (arrOf sorted vsorted kv) kv zx a) ∧
    r ≠ .oob ∧
    (∀ bytes, renderElf file sz r = some bytes →
        bytes = (List.range sz).map (fun i => specByte (arrOf sorted vsorted kv) kv file (addr + i))) ∧
    ((∃ a, addr ≤ a ∧ a < addr + sz ∧ Backed (arrOf sorted vsorted kv) kv zx a) →
        (renderElf file sz r).isSome) := by
  intro r
  have hr : r = elfPageNoHint sorted vsorted kv zx addr sz := elfGetPage_snd sorted vsorted kv h zx last addr sz
  rw [hr]
  rcases elfPageNoHint_spec sorted vsorted kv h zx file addr sz hsz with ⟨e, hn⟩ | ⟨hb, e⟩
  · rw [e]
    refine ⟨⟨fun _ => hn, fun _ => rfl⟩, ?_, ?_, fun hb => absurd hb hn⟩
    · cases kv <;> nofun
    · cases kv <;> nofun
  · refine ⟨⟨fun e' => ?_, fun hn => absurd hb hn⟩, fun e' => ?_, fun bytes hb' => ?_, fun _ => ?_⟩
    · rw [e'] at e
      cases kv <;> cases e
    · rw [e'] at e
      cases e
    · exact (Option.some.inj (e.symm.trans hb')).symm
    · rw [e]
      rfl

/-! ### diskdump -/

/-- PFN → descriptor position: `descoff + 24 · (number of set bits in [start, p))`
iff `p` lies in the window of the file and its bit is set. -/
theorem dd_desc_position (bm : Bitmap) (hb : BytesWF bm) (startPfn endPfn descoff : Nat)
    (hlen : (endPfn + 7) / 8 ≤ bm.length) (p : Nat) :
    pfnToPos (regionsFromBitmap bm false startPfn endPfn descoff 24) 24 p =
      if startPfn ≤ p ∧ p < endPfn ∧ bitOf false bm p = true then some (descoff + 24 * rank false bm startPfn p)
      else none := by
  have _ := hlen  -- not needed: bytes beyond the end of the bitmap read as zero
  exact pfnToPos_spec false bm hb startPfn endPfn descoff 24 p

/-- `diskdump_read_page` on a single file: out of bounds beyond `max_pfn`,
excluded when the bit is clear, otherwise whatever the descriptor at
`descoff + 24·rank p` says (raw pages must have the page size, LZO is not
implemented, an unknown flag combination is rejected). -/
theorem dd_locate_single (bm : Bitmap) (hb : BytesWF bm) (maxPfn ps descoff : Nat)
    (hlen : (maxPfn + 7) / 8 ≤ bm.length) (hmax : maxPfn < 2^64 - 1)
    (readDesc : Nat → Nat → Option PageDesc) (p : Nat) :
    ddLocate [(⟨regionsFromBitmap bm false 0 maxPfn descoff 24, 0, 2^64 - 1⟩, 0)] maxPfn ps readDesc p =
      if p ≥ maxPfn then .oob
      else if bitOf false bm p = false then .excluded
      else match readDesc 0 (descoff + 24 * rank false bm 0 p) with
        | none => .ioerr
        | some pd =>
          match ddMethod pd.flags with
          | some .raw => if pd.size ≠ ps then .corrupt else .data 0 pd.offset pd.size .raw
          | some .lzo => .notimpl
          | some meth => .data 0 pd.offset pd.size meth
          | none => .corrupt := by
  have _ := hlen
  unfold ddLocate
  by_cases hge : p ≥ maxPfn
  · rw [if_pos hge, if_pos hge]
  · rw [if_neg hge, if_neg hge]
    simp only [List.map_cons, List.map_nil, findFileMap, findFileMap.go]
    rw [if_pos (show p < 2^64 - 1 by omega)]
    dsimp only
    rw [if_pos (Nat.zero_le _), pfnToPos_spec false bm hb 0 maxPfn descoff 24 p]
    by_cases hbit : bitOf false bm p = true
    · rw [if_pos ⟨Nat.zero_le _, by omega, hbit⟩, if_neg (by simp [hbit])]
      simp
      rfl
    · rw [if_neg (by intro h; exact hbit h.2.2), if_pos (by simpa using hbit)]

/-! ### SADUMP -/

/-- position of the data of frame `p` in the concatenated data areas: `rank(p)` pages -/
theorem sadump_position (bm : Bitmap) (hb : BytesWF bm) (endPfn ps : Nat)
    (hlen : (endPfn + 7) / 8 ≤ bm.length) (p : Nat) :
    pfnToPos (regionsFromBitmap bm true 0 endPfn 0 ps) ps p =
      if p < endPfn ∧ bitOf true bm p = true then some (ps * rank true bm 0 p) else none := by
  have _ := hlen
  simpa using pfnToPos_spec true bm hb 0 endPfn 0 ps p

/-- the walk over the disks finds the extent that contains a position of the concatenation -/
theorem sadump_walk_spec (exts : List Extent) (pos : Nat) :
    match sadumpWalk exts pos with
    | some (fidx, p) => ∃ pre e post, exts = pre ++ e :: post ∧ e.fidx = fidx ∧
        (pre.map (·.dataLen)).sum ≤ pos ∧ pos < (pre.map (·.dataLen)).sum + e.dataLen ∧
        p = e.dataPos + (pos - (pre.map (·.dataLen)).sum)
    | none => (exts.map (·.dataLen)).sum ≤ pos := by
  induction exts generalizing pos with
  | nil => simp [sadumpWalk]
  | cons e es ih =>
    unfold sadumpWalk
    by_cases hge : pos ≥ e.dataLen
    · rw [if_pos hge]
      have := ih (pos - e.dataLen)
      split at this
      · rename_i fidx p heq
        obtain ⟨pre, e', post, h1, h2, h3, h4, h5⟩ := this
        refine ⟨e :: pre, e', post, by rw [h1]; rfl, h2, ?_⟩
        simp only [List.map_cons, List.sum_cons]
        omega
      · rename_i heq
        simp only [List.map_cons, List.sum_cons]; omega
    · rw [if_neg hge]
      refine ⟨[], e, es, rfl, rfl, ?_, ?_, ?_⟩ <;> simp <;> omega

/-! ### LKCD -/

/-- Whatever was read before (`Inv` = some prefix of the page stream is indexed):
asking for frame `p` of a stream without duplicate frames finds the descriptor
of `p` at its offset in the stream, or reports missing data, and keeps the
invariant. -/
theorem lkcd_get_spec (ds : List LkcdDesc) (dataOff shift : Nat)
    (hnd : (ds.map (pfnOf shift)).Nodup) (hend : ∀ d ∈ ds, d.flags &&& 4 = 0)
    (st : LkcdState) (hinv : Inv ds dataOff shift st) (p fuel : Nat) (hf : ds.length + 1 ≤ fuel) :
    let r := lkGet (streamReader ds dataOff) shift id fuel st p
    Inv ds dataOff shift r.1 ∧
    r.2 = (match (ds.map (pfnOf shift)).idxOf? p with
      | some i => (match ds[i]?, (streamOffs ds dataOff)[i]? with
          | some d, some o => LkcdFind.found o d
          | _, _ => LkcdFind.nodata)
      | none => LkcdFind.nodata) :=
  Kdf.Lemmas.DumpFault.lkGet_spec ds dataOff shift hnd hend st hinv p fuel hf

/-- the state right after opening satisfies the invariant -/
theorem lkcd_init_inv (ds : List LkcdDesc) (dataOff shift : Nat) (h : dataOff ≠ 0) :
    Inv ds dataOff shift ⟨dataOff, 0, [], 0⟩ :=
  inv_init ds dataOff shift h

/-! ### LKCD: transient failure of a descriptor read -/

/-- While the descriptor at file offset `bad` cannot be read (`EIO`, `KDUMP_ERR_BUSY`), a request for frame `p` either
reports that failure or gives the regular answer, and the scan state keeps its invariant: the end of the stream is
recorded only when the END marker or the end of the file has been seen. -/
theorem lkcd_fault_spec (ds : List LkcdDesc) (dataOff shift : Nat)
    (hnd : (ds.map (pfnOf shift)).Nodup) (hend : ∀ d ∈ ds, d.flags &&& 4 = 0)
    (st : LkcdState) (hinv : Inv ds dataOff shift st) (bad p fuel : Nat) (hf : ds.length + 1 ≤ fuel) :
    Inv ds dataOff shift (lkGetF (streamReader ds dataOff) shift id bad fuel st p).1 ∧
    ((lkGetF (streamReader ds dataOff) shift id bad fuel st p).2 = none ∨
     (lkGetF (streamReader ds dataOff) shift id bad fuel st p).2 = some (expect ds dataOff shift p)) :=
  (Kdf.Lemmas.DumpFault.lkGetF_spec ds dataOff shift hnd hend st hinv bad p fuel hf).imp id (Or.imp_left And.left)

/-- A call that does not report the failure is the undisturbed call. -/
theorem lkcd_fault_silent (readDesc : Nat → Option LkcdDesc) (shift : Nat) (key : Nat → Nat) (bad fuel : Nat)
    (st : LkcdState) (p : Nat) (h : (lkGetF readDesc shift key bad fuel st p).2 ≠ none) :
    lkGetF readDesc shift key bad fuel st p =
      ((lkGet readDesc shift key fuel st p).1, some (lkGet readDesc shift key fuel st p).2) :=
  Kdf.Lemmas.DumpFault.lkGetF_no_fault readDesc shift key bad fuel st p h

/-- Recovery: after a call that was hit by a transient failure, every frame `q` of the stream is found where the file
encodes it (the same answer as on a freshly opened dump), whatever `q` is and whatever was read before. -/
theorem lkcd_fault_recovers (ds : List LkcdDesc) (dataOff shift : Nat)
    (hnd : (ds.map (pfnOf shift)).Nodup) (hend : ∀ d ∈ ds, d.flags &&& 4 = 0)
    (st : LkcdState) (hinv : Inv ds dataOff shift st) (bad p q fuel : Nat) (hf : ds.length + 1 ≤ fuel) :
    (lkGet (streamReader ds dataOff) shift id fuel
        (lkGetF (streamReader ds dataOff) shift id bad fuel st p).1 q).2 = expect ds dataOff shift q :=
  (Kdf.Lemmas.DumpFault.lkGet_spec ds dataOff shift hnd hend _
    (Kdf.Lemmas.DumpFault.lkGetF_spec ds dataOff shift hnd hend st hinv bad p fuel hf).1 q fuel hf).2

/-! ### ELF extended numbering: no program header of the file is dropped -/

/-- A header without escape values is taken as it stands. -/
theorem elf_counts_plain (ePhnum eShnum eShoff : Nat) (sh0 : Option (Nat × Nat))
    (hp : ePhnum ≠ PN_XNUM) (hs : eShnum ≠ 0) :
    elfCounts ePhnum eShnum eShoff sh0 = some (eShnum, ePhnum) := by
  simp [elfCounts, hp, hs]

/-- `e_phnum = PN_XNUM`: the number of program headers is `sh_info` of section header 0, whether the number of
sections is given in the file header (`e_shnum ≠ 0`, the usual vmcore) or is extended itself (`sh_size ≠ 0`). -/
theorem elf_counts_xnum (eShnum eShoff size info : Nat) (ho : eShoff ≠ 0) (hs : eShnum ≠ 0 ∨ size ≠ 0) :
    (elfCounts PN_XNUM eShnum eShoff (some (size, info))).map (·.2) = some info := by
  by_cases h0 : eShnum = 0
  · have hsz : 0 < size := by rcases hs with h | h; exact absurd h0 h; omega
    simp [elfCounts, ho, h0, hsz]
  · have : 0 < eShnum := Nat.pos_of_ne_zero h0
    simp [elfCounts, ho, h0, this]

/-- With the true count every LOAD entry of a table of `n` entries is known to the library. -/
theorem elf_loads_all (tab : List (Nat × LoadSeg)) (n : Nat) (h : ∀ e ∈ tab, e.1 < n) :
    elfLoads tab n = tab.map (·.2) := by
  unfold elfLoads
  rw [List.filter_eq_self.mpr]
  intro e he
  simpa using h e he

/-- Extended numbering end to end: a table of `n` entries behind `e_phnum = PN_XNUM`, `sh_info = n`. -/
theorem elf_xnum_spec (tab : List (Nat × LoadSeg)) (n eShnum eShoff size : Nat) (ho : eShoff ≠ 0)
    (hs : eShnum ≠ 0 ∨ size ≠ 0) (h : ∀ e ∈ tab, e.1 < n) :
    ∃ c, elfCounts PN_XNUM eShnum eShoff (some (size, n)) = some c ∧ elfLoads tab c.2 = tab.map (·.2) := by
  have hx := elf_counts_xnum eShnum eShoff size n ho hs
  cases hc : elfCounts PN_XNUM eShnum eShoff (some (size, n)) with
  | none => simp [hc] at hx
  | some c =>
    simp [hc] at hx
    exact ⟨c, rfl, by rw [hx]; exact elf_loads_all tab n h⟩

/-! ### Non-vacuity: the hypotheses are met by concrete, non-trivial states -/

-- a run, a literal zero and a run of zeroes
example : rleEncode [7, 7, 7, 7, 0, 5, 0, 0, 0] = [0, 4, 7, 0, 0, 5, 0, 3, 0] := by decide
example : uncompressRle [0, 4, 7, 0, 0, 5, 0, 3, 0] 9 = .ok [7, 7, 7, 7, 0, 5, 0, 0, 0] := by decide
example : uncompressRle [0, 4, 7] 3 = .err := by decide          -- run longer than the buffer
example : uncompressRle [0, 4] 9 = .err := by decide             -- truncated stream

/-- two segments whose virtual order differs from their physical order; the first is only half file-backed -/
def exSegs : List LoadSeg := [⟨4096, 2048, 4096, 4096, 0x9000⟩, ⟨8192, 4096, 12288, 4096, 0x1000⟩]
example : SegsWF (arrOf exSegs (exSegs.mergeSort fun a b => a.virt ≤ b.virt) false) false := by
  simp [SegsWF, arrOf, exSegs, LoadSeg.key]
example : (elfGetPage exSegs [] {} false false 4096 4096).2 = .pieces [.file 4096 2048, .zero 2048] := by decide
example : (elfGetPage exSegs [] {} false false 8192 4096).2 = .nodata := by decide
example : (elfGetPage exSegs [] {} false false 12288 4096).2 = .chunk 8192 := by decide

-- the descriptor of the second record cannot be read: the request for frame 1 fails, the state is the one after the
-- first record, and the repeated request finds the frame
example :
    let ds : List LkcdDesc := [⟨0x3000, 5, 1⟩, ⟨0x1000, 7, 2⟩]
    lkGetF (streamReader ds 64) 12 id 85 3 ⟨64, 0, [], 0⟩ 1 = (⟨85, 0, [(3, 64)], 4⟩, none) := by decide
example :
    let ds : List LkcdDesc := [⟨0x3000, 5, 1⟩, ⟨0x1000, 7, 2⟩]
    (lkGet (streamReader ds 64) 12 id 3 ⟨85, 0, [(3, 64)], 4⟩ 1).2 = .found 85 ⟨0x1000, 7, 2⟩ := by decide

-- a vmcore with 65600 program headers: e_phnum = PN_XNUM, e_shnum = 1, sh_info = 65600
example : elfCounts 0xffff 1 0x380000 (some (0, 65600)) = some (1, 65600) := by decide
-- both numbers extended
example : elfCounts 0xffff 0 0x380000 (some (1, 65600)) = some (1, 65600) := by decide
example : elfCounts 3 0 0 none = some (0, 3) := by decide

example : pfnToPos (regionsFromBitmap [0x67, 0x0e] false 0 16 1000 24) 24 6 = some (1000 + 24 * 4) := by decide
example : sadumpLocate (regionsFromBitmap [0xe0] true 0 8 0 4096) [⟨20480, 4096, 1⟩, ⟨4096, 8192, 0⟩] 8 4096 2 =
    .data 0 8192 4096 .raw := by decide

end Kdf.Props.C01
