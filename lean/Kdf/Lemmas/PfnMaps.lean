import Kdf.Lemmas.PfnFind
/-! Lookups over several file maps: `findFileMap`, `findMapped`, `findUnmapped`. -/
namespace Kdf.Lemmas.Pfn
open Kdf.Model.Pfn

theorem go_first {α β : Type} (P : α → Prop) [DecidablePred P] (res : Nat → α → Option β)
    (go : List α → Nat → Option β) (hnil : ∀ i, go [] i = none)
    (hcons : ∀ x xs i, go (x :: xs) i = if P x then res i x else go xs (i+1)) :
    ∀ l i0, (go l i0 = none ∧ ∀ x ∈ l, ¬ P x) ∨
      ∃ pre s post, l = pre ++ s :: post ∧ (∀ x ∈ pre, ¬ P x) ∧ P s ∧
        go l i0 = res (i0 + pre.length) s := by
  intro l
  induction l with
  | nil => intro i0; exact Or.inl ⟨hnil i0, by simp⟩
  | cons a l ih =>
    intro i0
    rw [hcons]
    by_cases ha : P a
    · rw [if_pos ha]; exact Or.inr ⟨[], a, l, rfl, by simp, ha, rfl⟩
    · rw [if_neg ha]
      rcases ih (i0 + 1) with ⟨h1, h2⟩ | ⟨pre, s, post, e1, e2, e3, e4⟩
      · exact Or.inl ⟨h1, List.forall_mem_cons.mpr ⟨ha, h2⟩⟩
      · refine Or.inr ⟨a :: pre, s, post, by rw [e1]; rfl, List.forall_mem_cons.mpr ⟨ha, e2⟩, e3, ?_⟩
        rw [e4, List.length_cons, Nat.add_assoc, Nat.add_comm 1]

theorem findFileMap_first (maps : List FileMap) (pfn : Nat) :
    (findFileMap maps pfn = none ∧ ∀ m ∈ maps, ¬ pfn < m.endPfn) ∨
      ∃ pre m post, maps = pre ++ m :: post ∧ (∀ x ∈ pre, ¬ pfn < x.endPfn) ∧ pfn < m.endPfn ∧
        findFileMap maps pfn = some (0 + pre.length, m) :=
  go_first (fun m : FileMap => pfn < m.endPfn) (fun i m => some (i, m)) (findFileMap.go pfn)
    (fun _ => rfl) (fun _ _ _ => rfl) maps 0

theorem findFileMap_some {maps : List FileMap} {pfn i : Nat} {m : FileMap}
    (h : findFileMap maps pfn = some (i, m)) :
    ∃ pre post, maps = pre ++ m :: post ∧ i = pre.length ∧ (∀ x ∈ pre, x.endPfn ≤ pfn) ∧ pfn < m.endPfn := by
  rcases findFileMap_first maps pfn with ⟨h1, _⟩ | ⟨pre, m', post, e1, e2, e3, e4⟩
  · cases h1.symm.trans h
  · have := e4.symm.trans h
    simp only [Option.some.injEq, Prod.mk.injEq, Nat.zero_add] at this
    obtain ⟨rfl, rfl⟩ := this
    exact ⟨pre, post, e1, rfl, fun x hx => Nat.le_of_not_lt (e2 x hx), e3⟩

/-- consequences of `MapsWF` for a decomposed list -/
theorem MapsWF.split {pre post : List FileMap} {m : FileMap} (h : MapsWF (pre ++ m :: post)) :
    (∀ x ∈ pre, x.endPfn ≤ m.startPfn) ∧ (∀ x ∈ post, m.endPfn ≤ x.startPfn) ∧
    (∀ x ∈ pre ++ m :: post, x.startPfn ≤ x.endPfn ∧ RegionsSorted x.regions ∧
      ∀ r ∈ x.regions, x.startPfn ≤ r.pfn ∧ r.pfn + r.cnt ≤ x.endPfn) := by
  obtain ⟨h1, h2⟩ := h
  rw [List.pairwise_append, List.pairwise_cons] at h1
  obtain ⟨_, ⟨p2, _⟩, p3⟩ := h1
  exact ⟨fun x hx => p3 x hx m List.mem_cons_self, p2, h2⟩

theorem not_mapped_of_ends {maps : List FileMap} {p : Nat}
    (h : ∀ x ∈ maps, ∀ r ∈ x.regions, r.pfn + r.cnt ≤ p) : ∀ j, p ≤ j → ¬ Mapped maps j := by
  intro j hj ⟨m, hm, r, hr, h1, h2⟩
  have := h m hm r hr; omega

theorem ends_of_findFileMap_none {maps : List FileMap} (h : MapsWF maps) {p : Nat}
    (hffm : findFileMap maps p = none) : ∀ x ∈ maps, ∀ r ∈ x.regions, r.pfn + r.cnt ≤ p := by
  intro x hx r hr
  have := (h.2 x hx).2.2 r hr
  rcases findFileMap_first maps p with ⟨_, h2⟩ | ⟨pre, m, post, _, _, _, e4⟩
  · have := h2 x hx
    omega
  · cases hffm.symm.trans e4

/-- the maps `regionAtOrAfter` passes over hold nothing above `p` -/
theorem ends_below_of_skipped {maps : List FileMap} (h : MapsWF maps) {pre tried : List FileMap} {p : Nat}
    (hpre : ∀ x ∈ pre, x.endPfn ≤ p) (htried : ∀ x ∈ tried, findRegion x.regions p = none)
    (hsub : ∀ x ∈ pre ++ tried, x ∈ maps) : ∀ x ∈ pre ++ tried, ∀ r ∈ x.regions, r.pfn + r.cnt ≤ p := by
  intro x hx r hr
  obtain ⟨_, hs, hwin⟩ := h.2 x (hsub x hx)
  rcases List.mem_append.mp hx with hx | hx
  · have := hpre x hx
    have := hwin r hr
    omega
  · exact findRegion_none hs (htried x hx) r hr

theorem regionAtOrAfter_some {maps : List FileMap} (h : MapsWF maps) {p : Nat} {r : Region}
    (hreg : regionAtOrAfter maps p = some r) :
    p ≤ max r.pfn p ∧ Mapped maps (max r.pfn p) ∧ ∀ j, p ≤ j → j < max r.pfn p → ¬ Mapped maps j := by
  unfold regionAtOrAfter at hreg
  split at hreg
  · simp at hreg
  · rename_i i m hffm
    obtain ⟨pre, post, e1, e2, e3, e4⟩ := findFileMap_some hffm
    subst e2
    rw [e1, List.drop_left, List.findSome?_eq_some_iff] at hreg
    obtain ⟨l1, a, l2, g1, g2, g3⟩ := hreg
    have e : maps = (pre ++ l1) ++ a :: l2 := by rw [e1, g1]; simp
    rw [e] at h ⊢
    have hbefore := ends_below_of_skipped h e3 g3 fun x hx => List.mem_append_left _ hx
    obtain ⟨w1, w2, w3⟩ := h.split
    have ha : a ∈ (pre ++ l1) ++ a :: l2 := by simp
    obtain ⟨_, hs, hwin⟩ := w3 a ha
    obtain ⟨f1, f2, f3⟩ := findRegion_some hs g2
    have hpos := hs.2 r f1
    refine ⟨by omega, ⟨a, ha, r, f1, by omega, by omega⟩, ?_⟩
    intro j hj1 hj2 ⟨m', hm', r', hr', k1, k2⟩
    rw [List.mem_append, List.mem_cons] at hm'
    rcases hm' with hm' | rfl | hm'
    · have := hbefore m' hm' r' hr'; omega
    · have := f3 r' hr' (by omega); omega
    · have := w2 m' hm'
      have := (w3 m' (by simp [hm'])).2.2 r' hr'
      have := hwin r f1
      omega

theorem regionAtOrAfter_none {maps : List FileMap} (h : MapsWF maps) {p : Nat}
    (hreg : regionAtOrAfter maps p = none) : ∀ j, p ≤ j → ¬ Mapped maps j := by
  unfold regionAtOrAfter at hreg
  apply not_mapped_of_ends
  split at hreg
  · rename_i hffm
    exact ends_of_findFileMap_none h hffm
  · rename_i i m hffm
    obtain ⟨pre, post, e1, e2, e3, e4⟩ := findFileMap_some hffm
    subst e2
    rw [e1, List.drop_left, List.findSome?_eq_none_iff] at hreg
    rw [e1] at h ⊢
    exact ends_below_of_skipped h e3 hreg fun x hx => hx

/-! ### `findUnmapped` -/

/-- all regions of all maps -/
def allRegions (maps : List FileMap) : List Region := (maps.map (·.regions)).flatten

/-- number of regions ending above `p` -/
def remaining (maps : List FileMap) (p : Nat) : Nat :=
  ((allRegions maps).filter (fun r => decide (p < r.pfn + r.cnt))).length

theorem remaining_le_total (maps : List FileMap) (p : Nat) :
    remaining maps p ≤ (maps.map (fun m => m.regions.length)).foldl (· + ·) 0 := by
  rw [← List.sum_eq_foldl_nat]
  refine Nat.le_trans (List.length_filter_le _ _) (Nat.le_of_eq ?_)
  rw [allRegions, List.length_flatten, List.map_map]
  rfl

theorem mem_allRegions {maps : List FileMap} {m : FileMap} {r : Region} (hm : m ∈ maps) (hr : r ∈ m.regions) :
    r ∈ allRegions maps := by
  unfold allRegions
  rw [List.mem_flatten]
  exact ⟨m.regions, List.mem_map.mpr ⟨m, hm, rfl⟩, hr⟩

theorem remaining_lt {maps : List FileMap} {p : Nat} {r : Region} (hr : r ∈ allRegions maps)
    (h1 : p < r.pfn + r.cnt) : remaining maps (r.pfn + r.cnt) < remaining maps p := by
  unfold remaining
  have e : (allRegions maps).filter (fun q => decide (r.pfn + r.cnt < q.pfn + q.cnt)) =
      ((allRegions maps).filter (fun q => decide (p < q.pfn + q.cnt))).filter
        (fun q => decide (r.pfn + r.cnt < q.pfn + q.cnt)) := by
    rw [List.filter_filter]
    apply List.filter_congr
    intro q _
    by_cases hq : r.pfn + r.cnt < q.pfn + q.cnt
    · simp [hq, Nat.lt_trans h1 hq]
    · simp [hq]
  rw [e, List.length_filter_lt_length_iff_exists]
  exact ⟨r, List.mem_filter.mpr ⟨hr, by simpa using h1⟩, by simp⟩

/-- a frame in the window of the map found by `findFileMap` that no region of that map contains is unmapped -/
theorem not_mapped_in_map {pre post : List FileMap} {m : FileMap} (h : MapsWF (pre ++ m :: post)) {p : Nat}
    (hpre : ∀ x ∈ pre, x.endPfn ≤ p) (hp : p < m.endPfn) (hno : ∀ r ∈ m.regions, ¬ r.has p) :
    ¬ Mapped (pre ++ m :: post) p := by
  obtain ⟨w1, w2, w3⟩ := h.split
  intro ⟨m', hm', r', hr', g1, g2⟩
  have hwin := (w3 m' hm').2.2 r' hr'
  rw [List.mem_append, List.mem_cons] at hm'
  rcases hm' with hm' | rfl | hm'
  · have := hpre m' hm'; omega
  · exact hno r' hr' ⟨g1, g2⟩
  · have := w2 m' hm'; omega

theorem findUnmapped_spec (maps : List FileMap) (h : MapsWF maps) :
    ∀ fuel p, remaining maps p < fuel →
      p ≤ findUnmapped maps fuel p ∧ ¬ Mapped maps (findUnmapped maps fuel p) ∧
        ∀ j, p ≤ j → j < findUnmapped maps fuel p → Mapped maps j := by
  intro fuel
  induction fuel with
  | zero => intro p hf; omega
  | succ fuel ih =>
    intro p hf
    rw [findUnmapped]
    split
    · rename_i hffm
      exact ⟨Nat.le_refl _, not_mapped_of_ends (ends_of_findFileMap_none h hffm) p (Nat.le_refl _),
        fun j h1 h2 => by omega⟩
    · rename_i i m hffm
      obtain ⟨pre, post, e1, e2, e3, e4⟩ := findFileMap_some hffm
      have hm : m ∈ maps := by rw [e1]; simp
      obtain ⟨_, hs, hwin⟩ := h.2 m hm
      split
      · rename_i hst
        refine ⟨Nat.le_refl _, ?_, fun j h1 h2 => by omega⟩
        rw [e1] at h ⊢
        apply not_mapped_in_map h e3 e4
        intro r hr ⟨g1, g2⟩
        have := hwin r hr; omega
      · split
        · rename_i hfr
          refine ⟨Nat.le_refl _, ?_, fun j h1 h2 => by omega⟩
          rw [e1] at h ⊢
          apply not_mapped_in_map h e3 e4
          intro r hr ⟨g1, g2⟩
          have := findRegion_none hs hfr r hr; omega
        · rename_i r hfr
          obtain ⟨f1, f2, f3⟩ := findRegion_some hs hfr
          split
          · rename_i hgt
            refine ⟨Nat.le_refl _, ?_, fun j h1 h2 => by omega⟩
            rw [e1] at h ⊢
            apply not_mapped_in_map h e3 e4
            intro r' hr' ⟨g1, g2⟩
            have := f3 r' hr' (by omega); omega
          · rename_i hle
            have hlt := remaining_lt (mem_allRegions hm f1) f2
            obtain ⟨i1, i2, i3⟩ := ih (r.pfn + r.cnt) (by omega)
            refine ⟨by omega, i2, ?_⟩
            intro j hj1 hj2
            by_cases hjr : j < r.pfn + r.cnt
            · exact ⟨m, hm, r, f1, by omega, hjr⟩
            · exact i3 j (by omega) hj2

end Kdf.Lemmas.Pfn
