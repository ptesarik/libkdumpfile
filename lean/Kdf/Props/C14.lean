import Kdf.Model.Derived
import Kdf.Lemmas.DerivedPage
import Kdf.Lemmas.DerivedReg
import Kdf.Lemmas.DerivedXen
import Kdf.Lemmas.DerivedVmci
import Kdf.Lemmas.DerivedTyped
/-!
# C14 — derived views of dump metadata stay coherent with their source

Property theorems over `Kdf.Model.Derived` (tied to the C code by the `derived`
correspondence stream).  Helper lemmas: `Kdf.Lemmas.Derived{Page,Reg,Xen,Vmci,Typed}`.
-/
namespace Kdf.Props.C14
open Kdf.Model.Derived
open Kdf.Lemmas.DerivedPage Kdf.Lemmas.DerivedReg Kdf.Lemmas.DerivedVmci Kdf.Lemmas.DerivedXen Kdf.Lemmas.DerivedTyped

/-! ## page size = 2 ^ page shift -/

def isSet : PageOp → Bool
  | .setSize _ | .setShift _ => true
  | _ => false

/-- run a history; `none` = undefined behaviour or recursion fuel exhausted -/
def pageRun (p : Page) : List PageOp → Option Page
  | [] => some p
  | op :: t => match pageStep p op with
    | .done _ p' => pageRun p' t
    | _ => none

/-- Every set of either attribute — accepted or refused — keeps
`page_size = 2 ^ page_shift` (both set or both unset), never reaches the undefined
shift and never exhausts the hook recursion; a refused set changes nothing. -/
theorem page_set_coherent (p : Page) (hp : Coh p) (op : PageOp) (hop : isSet op = true) :
    ∃ st p', pageStep p op = .done st p' ∧ Coh p' ∧ (st ≠ .ok → p' = p) := by
  -- a set leaves the state alone (`kept`) or stores a power of two with its exponent
  have kept : ∀ st, ∃ st' p', Out.done st p = .done st' p' ∧ Coh p' ∧ (st' ≠ .ok → p' = p) :=
    fun st => ⟨st, p, rfl, hp, fun _ => rfl⟩
  cases op with
  | setSize v =>
    rw [pageStep]
    by_cases hv : ∃ s, s < 64 ∧ v = 2 ^ s
    · obtain ⟨s, hs, rfl⟩ := hv
      rw [setSize_two_pow pageFuel (by decide) p s hs]
      split
      · exact kept .ok
      · exact ⟨_, _, rfl, coh_two_pow hs, fun h => absurd rfl h⟩
    · rw [setSize_refused pageFuel (by decide) p v hv]
      split
      · exact kept .ok
      · exact kept .corrupt
  | setShift s =>
    rw [pageStep, setShift_eq pageFuel (by decide)]
    split
    · exact kept .ok
    · split
      · exact kept .corrupt
      · exact ⟨_, _, rfl, coh_two_pow (by omega), fun h => absurd rfl h⟩
  | clearSize => cases hop
  | clearShift => cases hop

/-- Every history of sets, of any length, from any coherent state runs through and ends coherent. -/
theorem page_history (ops : List PageOp) (h : ∀ op ∈ ops, isSet op = true) (p : Page) (hp : Coh p) :
    ∃ p', pageRun p ops = some p' ∧ Coh p' := by
  induction ops generalizing p with
  | nil => exact ⟨p, rfl, hp⟩
  | cons op t ih =>
    obtain ⟨st, p1, h1, h2, _⟩ := page_set_coherent p hp op (h op (by simp))
    obtain ⟨p', h3, h4⟩ := ih (fun o ho => h o (by simp [ho])) p1 h2
    exact ⟨p', by simp [pageRun, h1, h3], h4⟩

/-- A page size is accepted exactly when it is a power of two below 2^64 (0 included in
the refused values). -/
theorem page_set_ok_iff (p : Page) (hp : Coh p) (v : Nat) :
    (∃ p', setSize pageFuel p v = .done .ok p') ↔ ∃ s, s < 64 ∧ v = 2 ^ s := by
  constructor
  · rintro ⟨p', h⟩
    apply Classical.byContradiction
    intro hv
    -- any other value passes only as the stored one, and that is a power of two
    rw [setSize_refused pageFuel (by decide) p v hv] at h
    split at h
    · rename_i hsz
      exact hv (hp.size_two_pow hsz)
    · cases h
  · rintro ⟨s, hs, rfl⟩
    rw [setSize_two_pow pageFuel (by decide) p s hs]
    split <;> exact ⟨_, rfl⟩

-- Clears are excluded above because clearing one attribute leaves the other set (known finding
-- clear-page-size-shift):
example : ¬ Coh (clearSize ⟨some 4096, some 12⟩) := by simp [Coh, clearSize]
example : ¬ Coh (clearShift ⟨some 4096, some 12⟩) := by simp [Coh, clearShift]
example : Coh ⟨some 4096, some 12⟩ := by simp [Coh]
example : pageRun {} [.setSize 4096, .setShift 16, .setSize 3, .setShift 64] = some ⟨some 65536, some 16⟩ := by decide +kernel

/-! ## registers are views of PRSTATUS -/

inductive CpuOp
  | get (i : Nat) | set (i v : Nat) | blob (b : Bytes) | poke (off : Nat) (bs : Bytes) | clearBlob

def cpuStep (c : Cpu) : CpuOp → Cpu
  | .get i => (getReg c i).2.1
  | .set i v => (setReg c i v).2
  | .blob b => setBlob c b
  | .poke off bs => (poke c off bs).getD c
  | .clearBlob => clearBlob c

def cpuRun (c : Cpu) : List CpuOp → Cpu
  | [] => c
  | op :: t => cpuRun (cpuStep c op) t

theorem cpuStep_allInvalid (c : Cpu) (h : AllInvalid c) (op : CpuOp) : AllInvalid (cpuStep c op) := by
  cases op with
  | get i => exact getReg_allInvalid c h i
  | set i v => exact setReg_allInvalid c h i v
  | blob b | clearBlob => exact h
  | poke off bs =>
    rw [cpuStep]
    cases e : poke c off bs with
    | none => exact h
    | some c' => exact poke_allInvalid h e

/-- After every history of reads, writes, blob replacements, clears and in-place edits every
register is still flagged "re-read from the blob" (as at creation). -/
theorem reg_history (c : Cpu) (h : AllInvalid c) (ops : List CpuOp) : AllInvalid (cpuRun c ops) := by
  induction ops generalizing c with
  | nil => exact h
  | cons op t ih => exact ih _ (cpuStep_allInvalid c h op)

/-- With every register so flagged, a read returns exactly the blob's bytes at the register's
offset in the dump's byte order, and fails when the blob is too short. -/
theorem reg_read_eq_blob (c : Cpu) (h : AllInvalid c) (hb : c.blobSet = true) (i : Nat) (r : Reg)
    (hr : c.regs[i]? = some r) (hl : okLen r.d.len = true) :
    (r.d.off + r.d.len ≤ c.blob.length →
      (getReg c i).1 = .ok ∧ (getReg c i).2.2 = some (decode c.be ((c.blob.drop r.d.off).take r.d.len)) ∧
      (getReg c i).2.1.blob = c.blob) ∧
    (c.blob.length < r.d.off + r.d.len → (getReg c i).1 = .corrupt ∧ (getReg c i).2.2 = none) := by
  refine ⟨fun hin => ?_, getReg_short c h i r hr hb⟩
  rw [getReg_eq c h i r hr hb hin hl]
  exact ⟨rfl, rfl, rfl⟩

/-- A write patches exactly the register's bytes (nothing outside, length unchanged) with
the value in dump byte order, or fails and leaves the blob alone. -/
theorem reg_write_patches_blob (c : Cpu) (h : AllInvalid c) (hb : c.blobSet = true) (i v : Nat) (r : Reg)
    (hr : c.regs[i]? = some r) (hl : okLen r.d.len = true) :
    (r.d.off + r.d.len ≤ c.blob.length →
      (setReg c i v).1 = .ok ∧
      (setReg c i v).2.blob = patch c.blob r.d.off (encode c.be r.d.len v) ∧
      (setReg c i v).2.blob.length = c.blob.length ∧
      (∀ j, (j < r.d.off ∨ r.d.off + r.d.len ≤ j) → (setReg c i v).2.blob[j]? = c.blob[j]?)) ∧
    (c.blob.length < r.d.off + r.d.len → (setReg c i v).1 = .corrupt ∧ (setReg c i v).2.blob = c.blob) := by
  refine ⟨fun hin => ?_, setReg_short c h i r hr v hb⟩
  have hlen : (encode c.be r.d.len v).length = r.d.len := encode_length _ _ _
  rw [setReg_eq c h i r hr v hb hin hl]
  refine ⟨rfl, rfl, length_patch _ _ _ (by rw [hlen]; exact hin), fun j hj => ?_⟩
  exact getElem?_patch_outside _ _ _ j (by rw [hlen]; exact hin) (by rw [hlen]; exact hj)

/-- Reading a register back gives the written value truncated to the register's width. -/
theorem reg_read_after_write (c : Cpu) (h : AllInvalid c) (hb : c.blobSet = true) (i v : Nat) (r : Reg)
    (hr : c.regs[i]? = some r) (hin : r.d.off + r.d.len ≤ c.blob.length) (hl : okLen r.d.len = true) :
    (getReg (setReg c i v).2 i).2.2 = some (v % 256 ^ r.d.len) :=
  get_after_set c h hb i v r hr hin hl

/-- After PRSTATUS has been cleared no register can be read or written (`nodata`); the
views come back when a new blob is set (`setBlob` makes `blobSet` true again). -/
theorem reg_cleared (c : Cpu) (h : AllInvalid c) (i v : Nat) (r : Reg) (hr : (clearBlob c).regs[i]? = some r) :
    (getReg (clearBlob c) i).1 = .nodata ∧ (getReg (clearBlob c) i).2.2 = none ∧
    (setReg (clearBlob c) i v).1 = .nodata ∧ (setReg (clearBlob c) i v).2.blobSet = false ∧
    ∀ b, (setBlob (clearBlob c) b).blobSet = true ∧ (setBlob (clearBlob c) b).blob = b := by
  obtain ⟨a1, a2⟩ := getReg_cleared (clearBlob c) h i r hr rfl
  obtain ⟨b1, _, b3⟩ := setReg_cleared (clearBlob c) h i r hr v rfl
  exact ⟨a1, a2, b1, b3, fun b => ⟨rfl, rfl⟩⟩

-- a big-endian 4-byte register at offset 2 of a 8-byte blob
example : AllInvalid { be := true, blob := [1,2,3,4,5,6,7,8], regs := [{ d := ⟨"a0", 2, 4⟩ }] } := by
  intro r hr; simp at hr; subst hr; rfl
example : (getReg { be := true, blob := [1,2,3,4,5,6,7,8], regs := [{ d := ⟨"a0", 2, 4⟩ }] } 0).2.2 = some 0x03040506 := by decide +kernel
example : (setReg { be := true, blob := [1,2,3,4,5,6,7,8], regs := [{ d := ⟨"a0", 2, 4⟩ }] } 0 0x1AABBCCDD).2.blob
    = [1,2,0xAA,0xBB,0xCC,0xDD,7,8] := by decide +kernel

/-! ## Xen: registers of virtual CPU `n` are views of record `n` of `.xen_prstatus` -/

/-- The section is cut into whole records (a trailing partial record creates nothing):
vCPU `n` exists iff record `n` is complete; its `XEN_PRSTATUS` blob is exactly that record,
its registers are the given layout, all flagged "re-read from the blob". -/
theorem xen_records (be : Bool) (recsz : Nat) (h0 : 0 < recsz) (defs : List RegDef) (data : Bytes) :
    (xenCpus be recsz defs data).length = data.length / recsz ∧
    ∀ n, n < data.length / recsz → ∃ c, (xenCpus be recsz defs data)[n]? = some c ∧
      c.blob = (data.drop (n * recsz)).take recsz ∧ c.blob.length = recsz ∧ c.blobSet = true ∧ c.be = be ∧
      AllInvalid c ∧ c.regs = defs.map (fun d => { d := d }) := by
  obtain ⟨h1, h2⟩ := xenSplit_records recsz h0 data.length data (Nat.le_refl _)
  refine ⟨by simp [xenCpus, h1], fun n hn => ?_⟩
  refine ⟨_, by simp only [xenCpus, List.getElem?_map, h2 n hn]; rfl, rfl, ?_, rfl, rfl, ?_, rfl⟩
  · have hle : (n + 1) * recsz ≤ data.length := Nat.mul_le_of_le_div recsz (n + 1) _ hn
    have e : (n + 1) * recsz = n * recsz + recsz := Nat.succ_mul n recsz
    simp only [List.length_take, List.length_drop]
    omega
  · intro r hr
    simp only [List.mem_map] at hr
    obtain ⟨d, _, rfl⟩ := hr
    rfl

/-- On the dump as opened, register `i` of vCPU `n` reads the bytes of the section at
`n * recsz + off` in the dump's byte order — for every register that lies inside a record. -/
theorem xen_reg_read_eq_section (be : Bool) (recsz : Nat) (h0 : 0 < recsz) (defs : List RegDef) (data : Bytes)
    (n i : Nat) (d : RegDef) (hn : n < data.length / recsz) (hd : defs[i]? = some d)
    (hl : okLen d.len = true) (hin : d.off + d.len ≤ recsz) :
    (cpusGetReg (xenCpus be recsz defs data) n i).1 = .ok ∧
    (cpusGetReg (xenCpus be recsz defs data) n i).2.2 =
      some (decode be ((data.drop (n * recsz + d.off)).take d.len)) := by
  obtain ⟨_, h2⟩ := xen_records be recsz h0 defs data
  obtain ⟨c, hc, hb, hlen, hset, hbe, hinv, hregs⟩ := h2 n hn
  have hr : c.regs[i]? = some { d := d } := by
    rw [hregs, List.getElem?_map, hd]; rfl
  obtain ⟨g1, g2, _⟩ := reg_read_eq_blob c hinv hset i _ hr hl |>.1 (by simpa [hlen] using hin)
  simp only [cpusGetReg, hc]
  refine ⟨g1, ?_⟩
  rw [g2, hbe, hb]
  simp only [List.drop_take, List.take_take, List.drop_drop]
  have e : min d.len (recsz - d.off) = d.len := by omega
  rw [e]

/-- Frame: an access to a register of vCPU `n` is the single-CPU operation on that CPU's record and
leaves every other CPU (blob and registers) untouched. -/
theorem xen_cpu_frame (cs : List Cpu) (n i v : Nat) (c : Cpu) (hc : cs[n]? = some c) :
    ((cpusSetReg cs n i v).1 = (setReg c i v).1 ∧ (cpusSetReg cs n i v).2[n]? = some (setReg c i v).2 ∧
      ∀ m, m ≠ n → (cpusSetReg cs n i v).2[m]? = cs[m]?) ∧
    ((cpusGetReg cs n i).1 = (getReg c i).1 ∧ (cpusGetReg cs n i).2.2 = (getReg c i).2.2 ∧
      (cpusGetReg cs n i).2.1[n]? = some (getReg c i).2.1 ∧
      ∀ m, m ≠ n → (cpusGetReg cs n i).2.1[m]? = cs[m]?) := by
  simp only [cpusSetReg, cpusGetReg, hc]
  exact ⟨⟨trivial, getElem?_setNth_self _ hc, fun m hm => getElem?_setNth_ne cs _ (Ne.symm hm)⟩,
    trivial, trivial, getElem?_setNth_self _ hc, fun m hm => getElem?_setNth_ne cs _ (Ne.symm hm)⟩

/-- Writing register `i` of vCPU `n` patches exactly that register's bytes of that CPU's record in
dump byte order, touches no other CPU, and reading it back returns the value (truncated to the
register's width). -/
theorem xen_reg_write_patches_record (cs : List Cpu) (n i v : Nat) (c : Cpu) (r : Reg) (hc : cs[n]? = some c)
    (h : AllInvalid c) (hb : c.blobSet = true) (hr : c.regs[i]? = some r) (hl : okLen r.d.len = true)
    (hin : r.d.off + r.d.len ≤ c.blob.length) :
    (cpusSetReg cs n i v).1 = .ok ∧
    (∃ c', (cpusSetReg cs n i v).2[n]? = some c' ∧
       c'.blob = patch c.blob r.d.off (encode c.be r.d.len v) ∧ c'.blob.length = c.blob.length ∧
       ∀ j, (j < r.d.off ∨ r.d.off + r.d.len ≤ j) → c'.blob[j]? = c.blob[j]?) ∧
    (∀ m, m ≠ n → (cpusSetReg cs n i v).2[m]? = cs[m]?) ∧
    (cpusGetReg (cpusSetReg cs n i v).2 n i).2.2 = some (v % 256 ^ r.d.len) := by
  obtain ⟨⟨f1, f2, f3⟩, _⟩ := xen_cpu_frame cs n i v c hc
  obtain ⟨w1, w2, w3, w4⟩ := (reg_write_patches_blob c h hb i v r hr hl).1 hin
  refine ⟨by rw [f1]; exact w1, ⟨_, f2, w2, w3, w4⟩, f3, ?_⟩
  obtain ⟨_, g1, g2, _⟩ := xen_cpu_frame (cpusSetReg cs n i v).2 n i v _ f2
  rw [g2]
  exact reg_read_after_write c h hb i v r hr hin hl

inductive CpusOp
  | get (n i : Nat) | set (n i v : Nat) | blob (n : Nat) (b : Bytes) | poke (n off : Nat) (bs : Bytes)
  | clearBlob (n : Nat)

def cpusStep (cs : List Cpu) : CpusOp → List Cpu
  | .get n i => (cpusGetReg cs n i).2.1
  | .set n i v => (cpusSetReg cs n i v).2
  | .blob n b => (cpusUpdate cs n (fun c => some (setBlob c b))).getD cs
  | .poke n off bs => (cpusUpdate cs n (fun c => poke c off bs)).getD cs
  | .clearBlob n => (cpusUpdate cs n (fun c => some (clearBlob c))).getD cs

def cpusRun (cs : List Cpu) : List CpusOp → List Cpu
  | [] => cs
  | op :: t => cpusRun (cpusStep cs op) t

theorem cpusStep_allInvalid (cs : List Cpu) (h : AllCpusInvalid cs) (op : CpusOp) :
    AllCpusInvalid (cpusStep cs op) := by
  cases op with
  | get n i => exact cpusGetReg_inv cs h n i
  | set n i v => exact cpusSetReg_inv cs h n i v
  | blob n b | clearBlob n => exact cpusUpdate_inv cs h n _ (fun c c' hc e => by cases e; exact hc)
  | poke n off bs => exact cpusUpdate_inv cs h n _ (fun c c' hc e => poke_allInvalid hc e)

/-- After every history of register reads and writes, blob replacements, clears and in-place edits on
any of the CPUs, every register of every CPU is still flagged "re-read from the blob": the
single-CPU theorems above apply in every reachable state of a Xen dump. -/
theorem xen_history (cs : List Cpu) (h : AllCpusInvalid cs) (ops : List CpusOp) : AllCpusInvalid (cpusRun cs ops) := by
  induction ops generalizing cs with
  | nil => exact h
  | cons op t ih => exact ih _ (cpusStep_allInvalid cs h op)

-- a 9-byte section with 4-byte records holds two vCPUs (the ninth byte is ignored);
-- a 2-byte register at offset 1
example : (xenCpus false 4 [⟨"cs", 1, 2⟩] [1,2,3,4,5,6,7,8,9]).map (·.blob) = [[1,2,3,4],[5,6,7,8]] := by decide +kernel
example : (cpusGetReg (xenCpus false 4 [⟨"cs", 1, 2⟩] [1,2,3,4,5,6,7,8,9]) 1 0).2.2 = some 0x0706 := by decide +kernel
example : ((cpusSetReg (xenCpus false 4 [⟨"cs", 1, 2⟩] [1,2,3,4,5,6,7,8,9]) 1 0 0x1AABB).2.map (·.blob))
    = [[1,2,3,4],[5,0xBB,0xAA,8]] := by decide +kernel
example : (cpusGetReg (xenCpus false 4 [⟨"cs", 1, 2⟩] [1,2,3,4,5,6,7,8,9]) 2 0).1 = .nokey := by decide +kernel
example : AllCpusInvalid (xenCpus false 4 [⟨"cs", 1, 2⟩] [1,2,3,4,5,6,7,8,9]) := by
  intro c hc r hr
  simp [xenCpus, xenSplit] at hc
  rcases hc with rfl | rfl <;> simp at hr <;> subst hr <;> rfl

/-! ## version code = KERNEL_VERSION of the release string -/

inductive VerOp
  | setRelease (s : Bytes) | clearRelease | get

/-- `none` = signed overflow inside `KERNEL_VERSION` (components ≥ 2^47 / 2^55) -/
def verStep (v : Ver) : VerOp → Option Ver
  | .setRelease s => some (setRelease v s)
  | .clearRelease => some (clearRelease v)
  | .get => match getVer v with
    | .done _ (v', _) => some v'
    | _ => none

def verRun (v : Ver) : List VerOp → Option Ver
  | [] => some v
  | op :: t => (verStep v op).bind (verRun · t)

/-- The invariant "a version code that is not flagged for revalidation is the code of the
current release string" holds after every history of setting / clearing the release
string and reading the version code (a history with a read that overflows `KERNEL_VERSION` has no
final state, `verRun = none`, and is not covered). -/
theorem version_history (ops : List VerOp) (v : Ver) (h : VerInv v) (v' : Ver) (hr : verRun v ops = some v') :
    VerInv v' := by
  induction ops generalizing v with
  | nil => simp [verRun] at hr; subst hr; exact h
  | cons op t ih =>
    simp only [verRun] at hr
    cases op with
    | setRelease s => exact ih (setRelease v s) (setRelease_inv v h s) (by simpa [verStep] using hr)
    | clearRelease => exact ih (clearRelease v) (clearRelease_inv v) (by simpa [verStep] using hr)
    | get =>
      have hg := getVer_inv v h
      simp only [verStep] at hr
      split at hr
      · rename_i st v1 r heq
        rw [heq] at hg
        exact ih v1 hg.1 (by simpa using hr)
      · simp at hr

/-- Whenever reading `linux.version_code` succeeds, the value is `KERNEL_VERSION(a,b,c)` of
the triple parsed from the current `linux.uts.release`; a failed read yields no value. -/
theorem version_code_coherent (v : Ver) (h : VerInv v) (st : Status) (v' : Ver) (r : Option Nat)
    (hg : getVer v = .done st (v', r)) :
    (st = .ok → ∃ rel a b c n, r = some n ∧ v.release = some rel ∧ parseRelease rel = some (a, b, c) ∧
                  kernelVersion a b c = some n) ∧
    (st ≠ .ok → r = none) := by
  have := getVer_inv v h
  rw [hg] at this
  exact ⟨this.2.2.1, this.2.2.2⟩

/-- After the release string is cleared the version code cannot be read. -/
theorem version_cleared (v : Ver) (h : VerInv v) : ∃ v', getVer (clearRelease v) = .done .nodata (v', none) := by
  have _ := h  -- not needed: a cleared release never leaves a code that passes for valid
  unfold getVer clearRelease
  cases hs : v.isset <;> simp

-- the triples of some release strings, and a read after a set
example : parseRelease (bytesOf "5.4.0-100-generic") = some (5, 4, 0) := by decide +kernel
example : parseRelease (bytesOf "5.4") = some (5, 4, 0) := by decide +kernel
example : parseRelease (bytesOf "6") = some (6, 0, 0) := by decide +kernel
example : parseRelease (bytesOf "4.19.300") = some (4, 19, 300) := by decide +kernel
example : parseRelease (bytesOf "5.x") = none := by decide +kernel
example : VerInv {} := by simp [VerInv]
example : (match getVer (setRelease {} (bytesOf "4.19.300")) with
    | .done .ok (_, r) => r == some (4 * 65536 + 19 * 256 + 255)
    | _ => false) = true := by decide +kernel

/-! ## VMCOREINFO: raw text, parsed lines, convenience calls -/

/-- The splitter loses nothing and invents nothing: no piece contains a newline, the
pieces glued with newlines give back the text up to one final newline (so a missing
final newline, empty lines and the empty text are all covered), and every piece is cut
at its first `'='` (a piece without `'='` has an empty value). -/
theorem vmci_lines_split (raw : Bytes) :
    (∀ l ∈ splitLines (raw.length + 1) raw, 10 ∉ l) ∧
    (raw = [] → rowsOf raw = []) ∧
    (raw ≠ [] → (List.intercalate [10] (splitLines (raw.length + 1) raw) = raw ∨
                 List.intercalate [10] (splitLines (raw.length + 1) raw) ++ [10] = raw)) ∧
    (∀ l, 61 ∉ (rowOfLine l).key ∧
          ((l = (rowOfLine l).key ∧ (rowOfLine l).val = []) ∨ l = (rowOfLine l).key ++ [61] ++ (rowOfLine l).val)) :=
  ⟨(flatMap_splitLines _ raw (Nat.lt_succ_self _)).1, fun h => by subst h; rfl,
    intercalate_splitLines raw, rowOfLine_key_append_val⟩

/-- If a text is accepted, the parsed lines are exactly the key/value list of the text
(for a repeated key the last row wins), `kdump_vmcoreinfo_line` returns exactly that
value (and `nodata` for a key the text does not have).  Texts with a dotted-prefix pair of keys
or a key that starts with a dot are not accepted (`vmci_dir_refused`, `vmci_dot_refused`). -/
theorem vmci_lines_view (c : Ctx) (b : Bytes) (c' : Ctx)
    (h : setRaw c b = .done .ok c') (k : Bytes) :
    c'.lines.find k = lastVal (rowsOf b) k ∧
    vline c' k = (match lastVal (rowsOf b) k with
                  | some v => (.ok, v)
                  | none => (.nodata, [])) := by
  have hl := setRaw_lines c b c' h k
  refine ⟨hl, ?_⟩
  unfold vline
  rw [hl]
  cases hv : lastVal (rowsOf b) k with
  | none =>
    split
    · rfl
    · split <;> rfl
  | some v =>
    -- the text has a row, so "lines" is instantiated, and no accepted key starts with a dot
    have ⟨r, hr, hrk⟩ := lastVal_some_mem _ _ _ hv
    have h3 := (addRows_ok _ _ _ h).instLines (List.ne_nil_of_mem hr)
    have hkd : leadingDot k = false := hrk ▸ setRaw_ok_noDot c b c' h r hr
    rw [h3, hkd]
    rfl

/-- Whatever the outcome of setting a text, the raw attribute and `kdump_vmcoreinfo_raw`
give back exactly that text; clearing it clears every derived view. -/
theorem vmci_raw_unchanged (c : Ctx) (b : Bytes) (st : Status) (c' : Ctx) (h : setRaw c b = .done st c') :
    c'.raw = some b ∧ vraw c' = (.ok, b) ∧
    ((clearRaw c').raw = none ∧ (clearRaw c').lines = [] ∧ (clearRaw c').typed = [] ∧
     (∀ k, (vline (clearRaw c') k).1 = .nodata) ∧ (∀ k, (vsym (clearRaw c') k).1 = .nodata)) := by
  have hraw := addRows_raw _ _ _ _ h
  exact ⟨hraw, by rw [vraw, hraw], rfl, rfl, rfl, vline_clearRaw c', vsym_clearRaw c'⟩

/-- A row whose key names a directory of the tree built so far is refused and changes
nothing: such a text cannot be represented (known finding vmci-dotted-prefix). -/
theorem vmci_dir_refused (c : Ctx) (r : Row) (hk : leadingDot r.key = false)
    (hnew : c.lines.find r.key = none) (hdir : c.lines.isDir r.key = true) :
    addRow c r = .done .invalid c := by
  have hs : slotOf c.lines r.key = .dir := by
    unfold slotOf
    simp [hk, hnew, hdir]
  unfold addRow
  rw [hs]

/-- A row whose key starts with a dot is refused and changes nothing, an accepted text has
no such row, and the convenience calls never find a key with a leading dot (known finding
vmci-leading-dot). -/
theorem vmci_dot_refused (c : Ctx) (r : Row) (hk : leadingDot r.key = true) :
    addRow c r = .done .system c ∧ (vline c r.key).1 = .nodata ∧ (vsym c r.key).1 = .nodata ∧
    (∀ b c', setRaw c b = .done .ok c' → ∀ r' ∈ rowsOf b, leadingDot r'.key = false) := by
  refine ⟨by unfold addRow; rw [slotOf_dot _ _ hk], ?_, ?_, setRaw_ok_noDot c⟩
  · simp only [vline, hk]; split <;> rfl
  · simp only [vsym, hk]; split <;> rfl

/-- The typed views agree with the LAST row of their key: for an accepted text and every
well-formed `TYPE(sym)` key (`TYPE` one of SYMBOL, NUMBER, OFFSET, SIZE, LENGTH; `typedKey`),
the attribute `linux.vmcoreinfo.TYPE.sym` shows exactly what the value of the last row with
that key parses to (`strtoull`, whole string) — NO value when that row does not parse (an
earlier row's value is cleared), and no leaf at all when the text has no such row. -/
theorem vmci_typed_last_row (c : Ctx) (b : Bytes) (c' : Ctx) (h : setRaw c b = .done .ok c')
    (key : Bytes) (isSym : Bool) (tn : String) (p : Bytes) (hk : typedKey key = some (isSym, tn, p)) :
    shownAt c' p = (lastVal (rowsOf b) key).bind (parseTyped isSym) ∧
    (lastVal (rowsOf b) key = none → c'.typed.find p = none) := by
  -- `TInv` says this of the line of `key`, and the line is the last row
  obtain ⟨h1, h2, _⟩ :=
    addRows_tinv _ _ _ h (fun _ _ _ _ _ => ⟨rfl, fun _ => rfl, nofun⟩) key isSym tn p hk
  rw [setRaw_lines c b c' h key] at h1 h2
  exact ⟨h1, h2⟩

/-- `kdump_vmcoreinfo_symbol(sym)` answers from the typed view: a value it returns is the parse of
the last `SYMBOL(sym)` row, and it has no data when that row does not parse or does not exist. -/
theorem vmci_symbol_view (c : Ctx) (b : Bytes) (c' : Ctx) (h : setRaw c b = .done .ok c')
    (key sym : Bytes) (tn : String) (hk : typedKey key = some (true, tn, bytesOf "SYMBOL." ++ sym)) :
    (∀ n, vsym c' sym = (.ok, n) → (lastVal (rowsOf b) key).bind (parseTyped true) = some (true, n)) ∧
    ((lastVal (rowsOf b) key).bind (parseTyped true) = none → (vsym c' sym).1 = .nodata) := by
  obtain ⟨h1, _⟩ := vmci_typed_last_row c b c' h key true tn _ hk
  rw [← h1]
  rcases vsym_cases c' sym with hn | ⟨m, hm, hs⟩
  · rw [hn]
    exact ⟨fun n e => (nomatch e), fun _ => rfl⟩
  · rw [hm, hs]
    exact ⟨fun n e => (Prod.mk.inj e).2 ▸ rfl, fun e => (nomatch e)⟩

-- texts as byte lists: "A=1\nB\n\nC=x=y"; "A=1\nAB=2\nA=3\n" (repeated key, plain
-- prefix key); "SYMBOL(s)=ff\n"; the dotted-prefix pairs "A=1\nA.B=2\n" and "A.B=2\nA=1\n"
example : rowsOf [65,61,49,10,66,10,10,67,61,120,61,121]
    = [⟨[65], [49]⟩, ⟨[66], []⟩, ⟨[], []⟩, ⟨[67], [120,61,121]⟩] := by decide +kernel
example : (match setRaw {} [65,61,49,10,65,66,61,50,10,65,61,51,10] with
    | .done .ok c => c.lines.find [65] == some [51] && c.lines.find [65,66] == some [50]
    | _ => false) = true := by decide +kernel
example : (match setRaw {} [83,89,77,66,79,76,40,115,41,61,102,102,10] with
    | .done .ok c => vsym c [115] == (.ok, 255)
    | _ => false) = true := by decide +kernel
example : (match setRaw {} [65,61,49,10,65,46,66,61,50,10] with | .done .system _ => true | _ => false) = true := by decide +kernel
example : (match setRaw {} [65,46,66,61,50,10,65,61,49,10] with | .done .invalid _ => true | _ => false) = true := by decide +kernel
-- "A=1\n.A=2\n": refused at the dotted row, line "A" keeps 1, ".A" is no line
example : (match setRaw {} [65,61,49,10,46,65,61,50,10] with
    | .done .system c => vline c [65] == (.ok, [49]) && vline c [46,65] == (.nodata, [])
    | _ => false) = true := by decide +kernel

-- "NUMBER(x)=1\nNUMBER(x)=zz\n": the second row does not parse -- the leaf NUMBER.x stays but shows nothing;
-- "SYMBOL(s)=10\nSYMBOL(s)=zz\n": kdump_vmcoreinfo_symbol("s") has no data; a third row "NUMBER(x)=7" shows again
example : typedKey [78,85,77,66,69,82,40,120,41] = some (false, "NUMBER", [78,85,77,66,69,82,46,120]) := by decide +kernel
example : (match setRaw {} [78,85,77,66,69,82,40,120,41,61,49,10, 78,85,77,66,69,82,40,120,41,61,122,122,10] with
    | .done .ok c => (c.typed.find [78,85,77,66,69,82,46,120]).map (·.set) == some false &&
                     shownAt c [78,85,77,66,69,82,46,120] == none
    | _ => false) = true := by decide +kernel
example : (match setRaw {} [83,89,77,66,79,76,40,115,41,61,49,48,10, 83,89,77,66,79,76,40,115,41,61,122,122,10] with
    | .done .ok c => vsym c [115] == (.nodata, 0)
    | _ => false) = true := by decide +kernel
example : (match setRaw {} [78,85,77,66,69,82,40,120,41,61,49,10, 78,85,77,66,69,82,40,120,41,61,122,122,10,
                            78,85,77,66,69,82,40,120,41,61,55,10] with
    | .done .ok c => shownAt c [78,85,77,66,69,82,46,120] == some (false, 7)
    | _ => false) = true := by decide +kernel

end Kdf.Props.C14
