import Kdf.Lemmas.Res
/-! Per-function ledger lemmas for C15 (see `Kdf.Model.Res`). -/
namespace Kdf.Lemmas.Res
open Kdf.Model.Res

variable (cfg : Cfg) (L : List Res)

def pinOf (f : Fce) : Res := .pin f.c f.key
def pinsOf (held : List Fce) : List Res := held.map pinOf

theorem fcacheGetMmap_runs (fidx pos : Nat) (orc : List Ext) :
    Runs (fcacheGetMmap cfg fidx pos orc).evs L
      (heldAfter [] (fun f => [pinOf f]) (fcacheGetMmap cfg fidx pos orc).res ++ L) := by
  unfold fcacheGetMmap
  split
  · exact Runs.nil L
  · split
    · exact Runs.skip rfl L
    · exact Runs.acq _ _ L
    · exact Runs.cons (Runs.acq _ _ L) (Runs.put (.refl _))
    · exact Runs.cons (Runs.acq _ _ L) (Runs.cons (Runs.skip rfl _) (Runs.skip rfl _))
    · exact Runs.cons (Runs.acq _ _ L) (Runs.cons (Runs.skip rfl _) (Runs.cons (Runs.skip rfl _) (Runs.put (.refl _))))
    · exact Runs.nil L

theorem fcacheGetRead_runs (fidx pos : Nat) (orc : List Ext) :
    Runs (fcacheGetRead cfg fidx pos orc).evs L
      (heldAfter [] (fun f => [pinOf f]) (fcacheGetRead cfg fidx pos orc).res ++ L) := by
  unfold fcacheGetRead
  dsimp only
  split
  · exact Runs.nil L
  · split
    · exact Runs.skip rfl L
    · exact Runs.acq _ _ L
    · exact Runs.cons (Runs.acq _ _ L) (Runs.cons (Runs.skip rfl _) (Runs.skip rfl _))
    · exact Runs.cons (Runs.acq _ _ L) (Runs.cons (Runs.skip rfl _) (Runs.discard (.refl _)))
    · exact Runs.nil L

theorem fcacheGet_runs (pol : Policy) (fidx pos : Nat) (orc : List Ext) :
    Runs (fcacheGet cfg pol fidx pos orc).evs L
      (heldAfter [] (fun fp => [pinOf fp.1]) (fcacheGet cfg pol fidx pos orc).res ++ L) := by
  unfold fcacheGet
  split
  · have hr := fcacheGetRead_runs cfg L fidx pos orc
    generalize fcacheGetRead cfg fidx pos orc = out at hr
    rcases out with ⟨f | s | _, e, o⟩
    · exact hr
    · exact hr
    · exact Runs.nil L
  · have hm := fcacheGetMmap_runs cfg L fidx pos orc
    generalize fcacheGetMmap cfg fidx pos orc = out at hm
    rcases out with ⟨f | s | _, e, o⟩
    · exact hm
    · dsimp only
      split
      · exact hm
      · have hr := fcacheGetRead_runs cfg L fidx pos o
        generalize fcacheGetRead cfg fidx pos o = out at hr
        rcases out with ⟨f | s | _, e2, o2⟩
        · exact Runs.append hm hr
        · exact Runs.append hm hr
        · exact Runs.nil L
    · exact Runs.nil L

theorem fcachePread_runs (fuel : Nat) (pol : Policy) (len fidx pos : Nat) (orc : List Ext) :
    Runs (fcachePread cfg fuel pol len fidx pos orc).evs L L := by
  induction fuel generalizing pol len pos orc with
  | zero =>
    unfold fcachePread
    split <;> exact Runs.nil L
  | succ n ih =>
    rw [fcachePread]
    by_cases hl : len = 0
    · rw [if_pos hl]; exact Runs.nil L
    · rw [if_neg hl]
      have hg := fcacheGet_runs cfg L pol fidx pos orc
      generalize fcacheGet cfg pol fidx pos orc = out at hg
      rcases out with ⟨⟨f, pol'⟩ | s | _, e, o⟩
      · dsimp only
        generalize hx : fcachePread cfg n pol' _ fidx _ o = out2
        have hrec : Runs out2.evs L L := hx ▸ ih _ _ _ _
        have hput : Runs (e ++ [Ev.put f.c f.key]) L L := Runs.append hg (Runs.put (.refl _))
        rcases out2 with ⟨_ | _ | _, e2, o2⟩
        · exact Runs.append hput hrec
        · exact Runs.append hput hrec
        · exact Runs.nil L
      · exact hg
      · exact Runs.nil L

def arrRes (a : Option Nat) : List Res :=
  match a with
  | some sz => [.mem .fces sz]
  | none => []

def dataRes (d : Option Nat) : List Res :=
  match d with
  | some sz => [.mem .data sz]
  | none => []

def stRes (s : ChunkSt) : List Res := dataRes s.data ++ pinsOf s.held ++ arrRes s.arr

theorem chunkRes_eq (c : Chunk) : chunkRes c = dataRes c.data ++ pinsOf c.fces ++ arrRes c.arr := rfl

def chunkOf : ChunkRes → List Res
  | .chunk c _ => chunkRes c

/-- in copy mode nothing but the buffer is held; otherwise `nent` counts the held entries -/
def Inv (s : ChunkSt) : Prop :=
  (∀ sz, s.data = some sz → s.held = [] ∧ s.arr = none) ∧ (s.data = none → s.nent = s.held.length)

/-- a chunk `fcache_put_chunk` can take apart -/
def WF (cfg : Cfg) (c : Chunk) : Prop :=
  (∀ sz, c.data = some sz → c.nent = 0 ∧ c.fces = [] ∧ c.arr = none) ∧
  (c.data = none → c.nent = c.fces.length ∧ (∀ sz, c.arr = some sz → c.nent > cfg.embed))

/-- the ledger statement, and a chunk that is handed out is `WF` -/
def ChunkPost (cfg : Cfg) (H L : List Res) (o : Out ChunkRes) : Prop :=
  Runs o.evs (H ++ L) (heldAfter H chunkOf o.res ++ L) ∧ ∀ c p, o.res = .ok (.chunk c p) → WF cfg c

theorem ChunkPost.stuck (H L : List Res) (orc : List Ext) : ChunkPost cfg H L (stuckOut orc) :=
  ⟨Runs.nil _, fun _ _ h => (nomatch h)⟩

theorem ChunkPost.err {cfg : Cfg} {H L : List Res} {e : List Ev} (h : Runs e (H ++ L) L) (st : Status) (o : List Ext) :
    ChunkPost cfg H L ⟨.err st, e, o⟩ :=
  ⟨h, fun _ _ h => (nomatch h)⟩

theorem putFces_runs (held : List Fce) : Runs (putFces held) (pinsOf held ++ L) L := by
  induction held with
  | nil => exact Runs.nil L
  | cons f t ih => exact Runs.cons (Runs.put (.refl _)) ih

theorem freeArr_runs (a : Option Nat) : Runs (freeArr a) (arrRes a ++ L) L := by
  cases a with
  | none => exact Runs.nil L
  | some sz => exact Runs.free (.refl _)

theorem stRes_of_none {s : ChunkSt} (hd : s.data = none) (L : List Res) :
    stRes s ++ L = pinsOf s.held ++ (arrRes s.arr ++ L) := by
  rw [stRes, hd, List.append_assoc]; rfl

theorem stRes_of_some {s : ChunkSt} {sz : Nat} (hinv : Inv s) (hd : s.data = some sz) : stRes s = [.mem .data sz] := by
  obtain ⟨hh, ha⟩ := hinv.1 sz hd
  rw [stRes, hd, hh, ha]; rfl

theorem stRes_stepCopy (s : ChunkSt) (f : Fce) (p : Policy) : stRes (stepCopy s f p) = stRes s := rfl

theorem stRes_stepKeep {s : ChunkSt} (f : Fce) (p : Policy) (hd : s.data = none) :
    stRes (stepKeep s f p) = pinOf f :: stRes s := by
  simp only [stRes, stepKeep, hd]; rfl

theorem stRes_stepSwitch (s : ChunkSt) (f : Fce) (p : Policy) (len : Nat) :
    stRes (stepSwitch s f p len) = [.mem .data len] := rfl

theorem Inv.init (pol : Policy) (cap : Nat) (arr : Option Nat) (curdata remain pos : Nat) :
    Inv ⟨pol, cap, arr, [], none, curdata, remain, pos, 0⟩ :=
  ⟨fun _ h => (nomatch h), fun _ => rfl⟩

theorem Inv.stepKeep {s : ChunkSt} (hinv : Inv s) (f : Fce) (p : Policy) (hd : s.data = none) : Inv (stepKeep s f p) :=
  ⟨fun _ h => (nomatch hd.symm.trans h), fun _ => congrArg (· + 1) (hinv.2 hd)⟩

theorem Inv.stepCopy {s : ChunkSt} (hinv : Inv s) (f : Fce) (p : Policy) {sz : Nat} (hd : s.data = some sz) :
    Inv (stepCopy s f p) :=
  ⟨hinv.1, fun h => (nomatch hd.symm.trans h)⟩

theorem Inv.stepSwitch (s : ChunkSt) (f : Fce) (p : Policy) (len : Nat) : Inv (stepSwitch s f p len) :=
  ⟨fun _ _ => ⟨rfl, rfl⟩, fun h => (nomatch h)⟩

theorem chunkFinish_runs (s : ChunkSt) (orc : List Ext) (hinv : Inv s) :
    ChunkPost cfg (stRes s) L ⟨.ok (.chunk (chunkFinish cfg s).1 s.pol), (chunkFinish cfg s).2, orc⟩ := by
  suffices h : Runs (chunkFinish cfg s).2 (stRes s ++ L) (chunkRes (chunkFinish cfg s).1 ++ L) ∧
      WF cfg (chunkFinish cfg s).1 from
    ⟨h.1, fun c p hc => by cases hc; exact h.2⟩
  unfold chunkFinish
  cases hd : s.data with
  | some sz =>
    rw [stRes_of_some hinv hd]
    exact ⟨Runs.nil _, fun _ _ => ⟨rfl, rfl, rfl⟩, fun h => (nomatch h)⟩
  | none =>
    have hn := hinv.2 hd
    rw [stRes_of_none hd]
    dsimp only
    split
    · rename_i hgt
      rw [chunkRes_eq, List.append_assoc]
      exact ⟨Runs.nil _, fun _ h => (nomatch h), fun _ => ⟨hn, fun _ _ => hgt⟩⟩
    · have heq : chunkRes ⟨s.nent, s.held, none, none⟩ = pinsOf s.held := List.append_nil _
      rw [heq]
      exact ⟨(freeArr_runs L s.arr).frame_left _, fun _ h => (nomatch h), fun _ => ⟨hn, fun _ h => (nomatch h)⟩⟩

theorem chunkLoop_runs (len fidx fuel : Nat) (s : ChunkSt) (orc : List Ext)
    (hinv : Inv s) : ChunkPost cfg (stRes s) L (chunkLoop cfg len fidx fuel s orc) := by
  induction fuel generalizing s orc with
  | zero =>
    rw [chunkLoop]
    split
    · exact chunkFinish_runs cfg L s orc hinv
    · exact .stuck cfg _ L orc
  | succ n ih =>
    rw [chunkLoop]
    by_cases hrem : s.remain = 0
    · rw [if_pos hrem]; exact chunkFinish_runs cfg L s orc hinv
    rw [if_neg hrem]
    by_cases hcap : s.data = none ∧ s.held.length ≥ s.cap
    · rw [if_pos hcap]; exact .stuck cfg _ L orc
    rw [if_neg hcap]
    have hg := fcacheGet_runs cfg (stRes s ++ L) s.pol fidx s.pos orc
    generalize fcacheGet cfg s.pol fidx s.pos orc = out at hg
    rcases out with ⟨⟨f0, pol'⟩ | st | _, e, o⟩
    · dsimp only
      -- clamping changes `len` only: the entry held is the clamped one
      replace hg : Runs e (stRes s ++ L) (pinOf (clampFce f0 s.remain) :: (stRes s ++ L)) := hg
      cases hd : s.data with
      | some sz =>
        dsimp only
        have hput : Runs (e ++ [Ev.put (clampFce f0 s.remain).c (clampFce f0 s.remain).key]) (stRes s ++ L) (stRes s ++ L) :=
          Runs.append hg (Runs.put (.refl _))
        have hrec := ih (stepCopy s (clampFce f0 s.remain) pol') o (hinv.stepCopy _ pol' hd)
        rw [stRes_stepCopy] at hrec
        generalize chunkLoop cfg len fidx n _ o = out2 at hrec ⊢
        rcases out2 with ⟨cr | st | _, e2, o2⟩
        · exact ⟨Runs.append hput hrec.1, hrec.2⟩
        · exact ⟨Runs.append hput hrec.1, hrec.2⟩
        · exact .stuck cfg _ L orc
      | none =>
        dsimp only
        by_cases hk : s.nent = 0 ∨ (clampFce f0 s.remain).data = s.curdata
        · rw [if_pos hk]
          have hrec := ih (stepKeep s (clampFce f0 s.remain) pol') o (hinv.stepKeep _ pol' hd)
          rw [stRes_stepKeep _ _ hd] at hrec
          generalize chunkLoop cfg len fidx n _ o = out2 at hrec ⊢
          rcases out2 with ⟨cr | st | _, e2, o2⟩
          · exact ⟨Runs.append hg hrec.1, hrec.2⟩
          · exact ⟨Runs.append hg hrec.1, hrec.2⟩
          · exact .stuck cfg _ L orc
        · rw [if_neg hk]
          rw [stRes_of_none hd] at hg
          split
          · refine .err ?_ _ _
            rw [stRes_of_none hd]
            exact Runs.append (Runs.append (Runs.append hg (Runs.skip rfl _))
              (putFces_runs (arrRes s.arr ++ L) (clampFce f0 s.remain :: s.held))) (freeArr_runs L s.arr)
          · -- the buffer is on top while the held entries and the array go
            rename_i o'
            have hsw : Runs (e ++ [Ev.malloc .data len true] ++ putFces s.held ++ freeArr s.arr
                ++ [Ev.put (clampFce f0 s.remain).c (clampFce f0 s.remain).key])
                (stRes s ++ L) (Res.mem .data len :: L) := by
              rw [stRes_of_none hd]
              exact Runs.append (Runs.append (Runs.append (Runs.append hg (Runs.malloc _ _ _))
                ((putFces_runs (arrRes s.arr ++ L) s.held).frame_left [.mem .data len, pinOf (clampFce f0 s.remain)]))
                ((freeArr_runs L s.arr).frame_left [.mem .data len, pinOf (clampFce f0 s.remain)]))
                (Runs.put (.swap _ _ L))
            have hrec := ih (stepSwitch s (clampFce f0 s.remain) pol' len) o' (Inv.stepSwitch _ _ pol' len)
            rw [stRes_stepSwitch] at hrec
            generalize chunkLoop cfg len fidx n _ o' = out2 at hrec ⊢
            rcases out2 with ⟨cr | st | _, e2, o2⟩
            · exact ⟨Runs.append hsw hrec.1, hrec.2⟩
            · exact ⟨Runs.append hsw hrec.1, hrec.2⟩
            · exact .stuck cfg _ L orc
          · exact .stuck cfg _ L orc
    · refine .err (Runs.append hg ?_) _ _
      cases hd : s.data with
      | some sz => rw [stRes_of_some hinv hd]; exact Runs.free (.refl _)
      | none => rw [stRes_of_none hd]; exact Runs.append (putFces_runs _ _) (freeArr_runs _ _)
    · exact .stuck cfg _ L orc

theorem fcacheGetChunk_runs (pol : Policy) (len fidx pos : Nat) (orc : List Ext) :
    ChunkPost cfg [] L (fcacheGetChunk cfg pol len fidx pos orc) := by
  rw [fcacheGetChunk]
  by_cases hl : len = 0
  · rw [if_pos hl]
    exact ⟨Runs.nil L, fun c p h => by cases h; exact ⟨fun _ h => (nomatch h), fun _ => ⟨rfl, fun _ h => (nomatch h)⟩⟩⟩
  · rw [if_neg hl]
    dsimp only
    generalize (_ - _) / cfg.pgsz + 1 = est
    by_cases he : est > cfg.embed
    · rw [if_pos he]
      split
      · exact .err (Runs.skip rfl L) _ _
      · rename_i o
        have hrec := chunkLoop_runs cfg L len fidx len ⟨pol, est, some (est * cfg.fceSize), [], none, 0, len, pos, 0⟩ o
          (Inv.init ..)
        generalize chunkLoop cfg len fidx len _ o = out at hrec ⊢
        rcases out with ⟨cr | st | _, e, o2⟩
        · exact ⟨Runs.cons (Runs.malloc _ _ L) hrec.1, hrec.2⟩
        · exact ⟨Runs.cons (Runs.malloc _ _ L) hrec.1, hrec.2⟩
        · exact .stuck cfg _ L _
      · exact .stuck cfg _ L _
    · rw [if_neg he]
      exact chunkLoop_runs cfg L len fidx len _ orc (Inv.init pol cfg.embed none 0 len pos)

theorem fcachePutChunk_runs (c : Chunk) (hwf : WF cfg c) :
    Runs (fcachePutChunk cfg c) (chunkRes c ++ L) L := by
  unfold fcachePutChunk
  rw [chunkRes_eq]
  cases hd : c.data with
  | some sz =>
    obtain ⟨hn, hf, ha⟩ := hwf.1 sz hd
    rw [hn, hf, ha]
    exact Runs.free (.refl _)
  | none =>
    obtain ⟨hn, ha⟩ := hwf.2 hd
    rw [List.append_assoc]
    split
    · exact Runs.append (putFces_runs (arrRes c.arr ++ L) c.fces) (freeArr_runs L c.arr)
    · rename_i hle
      have harr : c.arr = none := by
        cases h : c.arr with
        | none => rfl
        | some sz => exact absurd (ha sz h) hle
      rw [harr]
      split
      · exact putFces_runs L c.fces
      · rename_i h0
        have : c.fces = [] := List.eq_nil_of_length_eq_zero (hn ▸ Decidable.of_not_not h0)
        rw [this]
        exact Runs.nil L

theorem diskdumpReadPage_runs (pol : Policy) (pfn : Nat) (pg : PageInfo) (orc : List Ext) :
    Runs (diskdumpReadPage cfg pol pfn pg orc).evs L L := by
  rw [diskdumpReadPage]
  by_cases hp : pfn ≥ cfg.maxPfn
  · rw [if_pos hp]; exact Runs.nil L
  rw [if_neg hp]
  cases pg.pdpos with
  | none =>
    dsimp only
    split <;> exact Runs.nil L
  | some pdpos =>
    dsimp only
    have h1 := fcachePread_runs cfg L pdSize pol pdSize 0 pdpos orc
    generalize fcachePread cfg pdSize pol pdSize 0 pdpos orc = out at h1 ⊢
    rcases out with ⟨pol1 | st | _, e, o⟩
    · dsimp only
      by_cases hc : pg.flags &&& DH_COMPRESSED = 0
      · rw [if_pos hc]
        split
        · exact h1
        · have h2 := fcachePread_runs cfg L pg.size pol1 pg.size 0 pg.offset o
          generalize fcachePread cfg pg.size pol1 pg.size 0 pg.offset o = out2 at h2 ⊢
          rcases out2 with ⟨pol2 | st | _, e2, o2⟩
          · exact Runs.append h1 h2
          · exact Runs.append h1 h2
          · exact Runs.nil L
      · rw [if_neg hc]
        have h2 := fcacheGetChunk_runs cfg L pol1 pg.size 0 pg.offset o
        generalize fcacheGetChunk cfg pol1 pg.size 0 pg.offset o = out2 at h2 ⊢
        rcases out2 with ⟨⟨c, pol2⟩ | st | _, e2, o2⟩
        · -- the trace is the same in every decompression branch
          simp only [apply_ite Out.evs, ite_self]
          exact Runs.append (Runs.append h1 h2.1) (fcachePutChunk_runs cfg L c (h2.2 c pol2 rfl))
        · exact Runs.append h1 h2.1
        · exact Runs.nil L
    · exact h1
    · exact Runs.nil L

theorem cacheGetPage_runs (pol : Policy) (key pfn : Nat) (pg : PageInfo) (orc : List Ext) :
    Runs (cacheGetPage cfg pol key pfn pg orc).evs L
      (heldAfter [] (fun _ => [.pin .pc key]) (cacheGetPage cfg pol key pfn pg orc).res ++ L) := by
  unfold cacheGetPage
  split
  · exact Runs.skip rfl L
  · exact Runs.acq _ _ L
  · rename_i o
    have h := diskdumpReadPage_runs cfg (Res.pin .pc key :: L) pol pfn pg o
    generalize diskdumpReadPage cfg pol pfn pg o = out at h
    rcases out with ⟨p | st | _, e, o2⟩
    · exact Runs.append (Runs.append (Runs.acq .pc key L) h) (Runs.skip rfl _)
    · exact Runs.append (Runs.append (Runs.acq .pc key L) h) (Runs.discard (.refl _))
    · exact Runs.nil L
  · exact Runs.nil L

theorem diskdumpGetPage_runs (pol : Policy) (key pfn : Nat) (pg : PageInfo) (orc : List Ext) :
    Runs (diskdumpGetPage cfg pol key pfn pg orc).evs L
      (heldAfter [] (fun _ => [.pin .pc key]) (diskdumpGetPage cfg pol key pfn pg orc).res ++ L) := by
  unfold diskdumpGetPage
  split
  · exact Runs.nil L
  · exact cacheGetPage_runs cfg L pol key pfn pg orc

theorem readLocked_runs (pages : Nat → PageInfo) (as fuel : Nat) (pol : Policy) (addr remain : Nat)
    (orc : List Ext) :
    Runs (readLocked cfg pages as fuel pol addr remain orc).evs L L := by
  induction fuel generalizing pol addr remain orc with
  | zero =>
    unfold readLocked
    split <;> exact Runs.nil L
  | succ n ih =>
    rw [readLocked]
    by_cases hl : remain = 0
    · rw [if_pos hl]; exact Runs.nil L
    · rw [if_neg hl]
      dsimp only
      have hg := diskdumpGetPage_runs cfg L pol ((addr - addr % cfg.ps) ||| as) ((addr - addr % cfg.ps) / cfg.ps)
        (pages ((addr - addr % cfg.ps) / cfg.ps)) orc
      generalize diskdumpGetPage cfg pol _ _ _ orc = out at hg
      rcases out with ⟨pol' | st | _, e, o⟩
      · dsimp only
        have hput : Runs (e ++ cachePutPage ((addr - addr % cfg.ps) ||| as)) L L :=
          Runs.append hg (Runs.put (.refl _))
        generalize hx : readLocked cfg pages as n pol' _ _ o = out2
        have hrec : Runs out2.evs L L := hx ▸ ih _ _ _ _
        rcases out2 with ⟨np | st | _, e2, o2⟩
        · exact Runs.append hput hrec
        · exact Runs.append hput hrec
        · exact Runs.nil L
      · exact hg
      · exact Runs.nil L

theorem addrxlatGetPage_runs (pol : Policy) (as addr : Nat) (pages : Nat → PageInfo) (orc : List Ext) :
    Runs (addrxlatGetPage cfg pol as addr pages orc).evs L
      (heldAfter [] (fun _ => lentRes cfg as addr) (addrxlatGetPage cfg pol as addr pages orc).res ++ L) := by
  unfold addrxlatGetPage
  split
  · exact Runs.skip rfl L
  · rename_i o
    dsimp only
    have hg := diskdumpGetPage_runs cfg (Res.mem .pio cfg.pioSize :: L) pol ((addr - addr % cfg.ps) ||| as)
      ((addr - addr % cfg.ps) / cfg.ps) (pages ((addr - addr % cfg.ps) / cfg.ps)) o
    generalize diskdumpGetPage cfg pol _ _ _ o = out at hg
    rcases out with ⟨p | st | _, e, o2⟩
    · exact (Runs.cons (Runs.malloc _ _ L) hg).perm_right (.swap _ _ L)
    · exact Runs.append (Runs.append (Runs.malloc _ _ L) hg) (Runs.free (.refl _))
    · exact Runs.nil L
  · exact Runs.nil L

theorem addrxlatPutPage_runs (as addr : Nat) :
    Runs (addrxlatPutPage cfg as addr) (lentRes cfg as addr ++ L) L :=
  Runs.cons (Runs.put (.swap _ _ L)) (Runs.free (.refl _))

end Kdf.Lemmas.Res
