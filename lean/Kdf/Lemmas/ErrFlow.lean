import Kdf.Model.ErrFlow
/-! Equations for the building blocks of `Kdf.Model.ErrFlow` (C16). -/
namespace Kdf.Lemmas.ErrFlow
open Kdf.Model.ErrFlow Kdf.Model.Status

theorem setError_ok (c : Chain) (m : String) : setError c 0 m = (0, c) := if_pos rfl

theorem setError_fail {st : Int} (h : st ≠ 0) (c : Chain) (m : String) : setError c st m = (st, m :: c) :=
  if_neg h

theorem apply_ok {p : Part} (h : p.wf) (h0 : p.st = 0) (c : Chain) : p.apply c = (0, c) := by
  simp only [Part.apply, h0, h.1 h0, List.nil_append]

theorem getSymval_ok {cb : Part} (h : cb.wf) (h0 : cb.st = 0) (name : String) (c : Chain) :
    getSymval cb name c = (0, c) := by
  simp only [getSymval, apply_ok h h0, setError_ok]

theorem getSymval_fail {cb : Part} (h0 : cb.st ≠ 0) (name : String) (c : Chain) :
    getSymval cb name c = (cb.st, ("Cannot resolve \"" ++ name ++ "\"") :: (cb.links ++ c)) :=
  setError_fail h0 _ _

theorem getNumber_ok {cb : Part} (h : cb.wf) (h0 : cb.st = 0) (name : String) (c : Chain) :
    getNumber cb name c = (0, c) := by
  simp only [getNumber, apply_ok h h0, setError_ok]

theorem getNumber_fail {cb : Part} (h0 : cb.st ≠ 0) (name : String) (c : Chain) :
    getNumber cb name c = (cb.st, ("Cannot get number(" ++ name ++ ")") :: (cb.links ++ c)) :=
  setError_fail h0 _ _

theorem tolerated_apply {p : Part} (h : p.wf) :
    (if (p.apply []).1 ≠ 0 then clearError (p.apply []).2 else (p.apply []).2) = [] := by
  by_cases h0 : p.st = 0
  · simp only [apply_ok h h0, ne_eq, not_true_eq_false, if_false]
  · simp only [Part.apply, ne_eq, h0, not_false_eq_true, if_true, clearError]

theorem mapLinuxArm_root_ok {swapper : Part} (hs : swapper.wf) (h0 : swapper.st = 0) (stext : Part) (capsOk : Bool)
    (rd : Part) (physBase : Bool) (mapDirect linDirect : Part) :
    mapLinuxArm false swapper stext capsOk rd physBase mapDirect linDirect [] =
      mapLinuxArm true swapper stext capsOk rd physBase mapDirect linDirect [] := by
  simp only [mapLinuxArm, getSymval_ok hs h0, setError_ok, Bool.false_eq_true, if_false, if_true]

theorem mapLinuxArm_root_fail {swapper : Part} (h0 : swapper.st ≠ 0) (stext : Part) (capsOk : Bool)
    (rd : Part) (physBase : Bool) (mapDirect linDirect : Part) :
    mapLinuxArm false swapper stext capsOk rd physBase mapDirect linDirect [] =
      (swapper.st, ["Cannot determine page table virtual address", "Cannot resolve \"swapper_pg_dir\""] ++ swapper.links) := by
  simp only [mapLinuxArm, getSymval_fail h0, setError_fail h0, Bool.false_eq_true, if_false, ne_eq, h0,
    not_false_eq_true, if_true, List.append_nil, List.cons_append, List.nil_append]
  rfl

theorem vmcoreinfoLookup_found (sym : Bool) (os : String) (c : Chain) :
    vmcoreinfoLookup sym .found os c = (0, []) := rfl

theorem vmcoreinfoLookup_fail (sym : Bool) (l : VLook) (os : String) (c : Chain) (h : l ≠ .found) :
    ∃ m, vmcoreinfoLookup sym l os c = (kdumpNODATA, [m]) := by
  cases l with
  | found => exact absurd rfl h
  | noOs => exact ⟨_, rfl⟩
  | noTable => exact ⟨_, rfl⟩
  | dot => exact ⟨_, rfl⟩
  | miss => exact ⟨_, rfl⟩
  | cleared => exact ⟨_, rfl⟩

end Kdf.Lemmas.ErrFlow
