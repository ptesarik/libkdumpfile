import Kdf.Model.Oom
/-! What the primitive steps of the ledger model `Kdf.Model.Oom` do to the state. -/
namespace Kdf.Lemmas.Oom
open Kdf.Model.Oom

variable {a b c s s' : St} {k i : Nat}

/-- frame: everything but `cnt`, `live`, `trace` and the mutex -/
structure Fr (s s' : St) : Prop where
  rd : s'.rd = s.rd
  wr : s'.wr = s.wr
  bad : s'.bad = s.bad
  sh : s'.shRef = s.shRef
  di : s'.dictRef = s.dictRef
  xr : s'.xlatRef = s.xlatRef
  fa : s'.failAt = s.failAt

theorem Fr.refl (s : St) : Fr s s := ⟨rfl, rfl, rfl, rfl, rfl, rfl, rfl⟩

theorem Fr.trans (h1 : Fr a b) (h2 : Fr b c) : Fr a c :=
  ⟨h2.rd.trans h1.rd, h2.wr.trans h1.wr, h2.bad.trans h1.bad, h2.sh.trans h1.sh,
   h2.di.trans h1.di, h2.xr.trans h1.xr, h2.fa.trans h1.fa⟩

structure FrM (s s' : St) : Prop extends Fr s s' where
  mtx : s'.mtx = s.mtx

theorem FrM.refl (s : St) : FrM s s := ⟨Fr.refl s, rfl⟩

theorem FrM.trans (h1 : FrM a b) (h2 : FrM b c) : FrM a c :=
  ⟨h1.toFr.trans h2.toFr, h2.mtx.trans h1.mtx⟩

theorem FrM.upd (s : St) (c : Nat) (l : List Nat) (t : List Ev) :
    FrM s { s with cnt := c, live := l, trace := t } :=
  ⟨⟨rfl, rfl, rfl, rfl, rfl, rfl, rfl⟩, rfl⟩

def Hit (s : St) (t : Nat) : Prop := s.cnt < s.failAt ∧ s.failAt ≤ s.cnt + t

theorem alloc_spec {o : Option Nat} (h : alloc s = (o, s')) :
    match o with
    | none => s.cnt + 1 = s.failAt ∧ s'.cnt = s.cnt + 1 ∧ s'.live = s.live ∧ FrM s s'
    | some i => s.cnt + 1 ≠ s.failAt ∧ i = s.cnt + 1 ∧ s'.cnt = s.cnt + 1 ∧ s'.live = i :: s.live ∧ FrM s s' := by
  unfold alloc at h
  split at h
  · next hc => cases h; exact ⟨hc, rfl, rfl, FrM.upd ..⟩
  · next hc => cases h; exact ⟨hc, rfl, rfl, rfl, FrM.upd ..⟩

theorem free_mem (h : i ∈ s.live) :
    (free i s).live = s.live.erase i ∧ (free i s).cnt = s.cnt ∧ FrM s (free i s) := by
  unfold free
  rw [if_pos h]
  exact ⟨rfl, rfl, FrM.upd ..⟩

theorem freeAll_prefix (ids : List Nat) : ∀ (s : St) (l : List Nat), s.live = ids ++ l →
    (freeAll ids s).live = l ∧ (freeAll ids s).cnt = s.cnt ∧ FrM s (freeAll ids s) := by
  induction ids with
  | nil => intro s l h; exact ⟨h, rfl, FrM.refl s⟩
  | cons i is ih =>
    intro s l h
    obtain ⟨f1, f2, f3⟩ := free_mem (i := i) (s := s) (by rw [h]; exact List.mem_cons_self)
    obtain ⟨a1, a2, a3⟩ := ih (free i s) l (by rw [f1, h]; exact List.erase_cons_head ..)
    exact ⟨a1, a2.trans f2, f3.trans a3⟩

theorem freeAll_sub (ids : List Nat) : ∀ (s : St), s.live.Nodup → ids.Nodup → (∀ b ∈ ids, b ∈ s.live) →
    (freeAll ids s).live.Nodup ∧ (∀ x, x ∈ (freeAll ids s).live ↔ x ∈ s.live ∧ x ∉ ids) ∧
    (freeAll ids s).live.length + ids.length = s.live.length ∧
    (freeAll ids s).cnt = s.cnt ∧ FrM s (freeAll ids s) := by
  induction ids with
  | nil => intro s hn _ _; simp [freeAll, hn, FrM.refl]
  | cons i is ih =>
    intro s hn hi hm
    have him : i ∈ s.live := hm i (by simp)
    obtain ⟨f1, f2, f3⟩ := free_mem him
    have hi' := List.nodup_cons.mp hi
    have hn1 : (free i s).live.Nodup := by rw [f1]; exact hn.erase i
    have hm1 : ∀ b ∈ is, b ∈ (free i s).live := by
      intro b hb
      rw [f1, hn.mem_erase_iff]
      refine ⟨?_, hm b (by simp [hb])⟩
      intro e; subst e; exact hi'.1 hb
    obtain ⟨a1, a2, a3, a4, a5⟩ := ih (free i s) hn1 hi'.2 hm1
    simp only [freeAll]
    refine ⟨a1, ?_, ?_, a4.trans f2, f3.trans a5⟩
    · intro x
      rw [a2 x, f1, hn.mem_erase_iff]
      simp only [List.mem_cons, not_or]
      constructor
      · rintro ⟨⟨h1, h2⟩, h3⟩; exact ⟨h2, h1, h3⟩
      · rintro ⟨h2, h1, h3⟩; exact ⟨⟨h1, h2⟩, h3⟩
    · have hl := List.length_erase_of_mem him
      have hpos : 0 < s.live.length := List.length_pos_of_mem him
      rw [f1] at a3
      simp only [List.length_cons]
      omega

structure AllocN (k : Nat) (s s' : St) (ok : Bool) (ids : List Nat) : Prop where
  live : s'.live = ids ++ s.live
  fr : FrM s s'
  cnt : s.cnt ≤ s'.cnt
  fresh : ∀ i ∈ ids, s.cnt < i ∧ i ≤ s'.cnt
  nodup : ids.Nodup
  done : ok = true → s'.cnt = s.cnt + k ∧ ids.length = k ∧ ¬ Hit s k
  hit : ok = false → Hit s k

theorem allocN_spec (k : Nat) : ∀ (s : St) {ok : Bool} {ids : List Nat} {s' : St},
    allocN k s = (ok, ids, s') → AllocN k s s' ok ids := by
  induction k with
  | zero => intro s ok ids s' h; cases h; exact ⟨rfl, FrM.refl s, Nat.le_refl _, by simp, by simp, by simp [Hit], by simp⟩
  | succ k ih =>
    intro s ok ids s' h
    simp only [allocN] at h
    split at h
    · next s1 h1 =>
      cases h
      obtain ⟨e, c, l, f⟩ := alloc_spec h1
      refine ⟨l, f, by omega, (fun _ h => absurd h List.not_mem_nil), List.nodup_nil, (fun h => Bool.noConfusion h), fun _ => ?_⟩
      unfold Hit; omega
    · next i s1 h1 =>
      rcases hr : allocN k s1 with ⟨ok1, ids1, s2⟩
      simp only [hr] at h
      cases h
      obtain ⟨e, hi, c, l, f⟩ := alloc_spec h1
      obtain ⟨a1, a2, a3, a4, a5, a6, a7⟩ := ih s1 hr
      have hfa := f.fa
      refine ⟨by rw [a1, l, List.append_assoc]; rfl, f.trans a2, by omega, ?_, ?_, ?_, ?_⟩
      · intro j hj
        rcases List.mem_append.mp hj with hj | hj
        · have := a4 j hj; omega
        · have := List.mem_singleton.mp hj; omega
      · refine List.nodup_append.mpr ⟨a5, by simp, ?_⟩
        intro a ha b hb
        have := a4 a ha; have := List.mem_singleton.mp hb; omega
      · intro hr
        have := a6 hr
        unfold Hit at *
        simp only [List.length_append, List.length_singleton]
        omega
      · intro hr
        have := a7 hr
        unfold Hit at *; omega

structure AllFail (k : Nat) (s s' : St) : Prop where
  live : s'.live = s.live
  fr : FrM s s'
  cnt : s.cnt ≤ s'.cnt
  hit : Hit s k

structure AllOk (k : Nat) (s s' : St) (got : List Nat) : Prop where
  live : s'.live = got ++ s.live
  fr : FrM s s'
  cnt : s'.cnt = s.cnt + k
  len : got.length = k
  fresh : ∀ i ∈ got, s.cnt < i ∧ i ≤ s'.cnt
  nodup : got.Nodup
  nohit : ¬ Hit s k

theorem allocAll_spec {o : Option (List Nat)} (h : allocAll k s = (o, s')) :
    match o with
    | none => AllFail k s s'
    | some got => AllOk k s s' got := by
  unfold allocAll at h
  split at h
  · next got s1 he =>
    cases h
    have a := allocN_spec k s he
    obtain ⟨b1, b2, b3⟩ := freeAll_prefix got s1 s.live a.live
    exact ⟨b1, a.fr.trans b3, b2 ▸ a.cnt, a.hit rfl⟩
  · next got s1 he =>
    cases h
    have a := allocN_spec k s he
    obtain ⟨c1, c2, c3⟩ := a.done rfl
    exact ⟨a.live, a.fr, c1, c2, a.fresh, a.nodup, c3⟩

theorem regrow_spec {ok : Bool} (h : regrow s = (ok, s')) :
    s'.cnt = s.cnt + 1 ∧ s'.live = s.live ∧ FrM s s' ∧
    match ok with
    | false => s.cnt + 1 = s.failAt
    | true => s.cnt + 1 ≠ s.failAt := by
  unfold regrow at h
  split at h
  · next hc => cases h; exact ⟨rfl, rfl, FrM.upd .., hc⟩
  · next hc => cases h; exact ⟨rfl, rfl, FrM.upd .., hc⟩

theorem regrowN_spec (k : Nat) : ∀ (s : St),
    (regrowN k s).2.live = s.live ∧ FrM s (regrowN k s).2 ∧ s.cnt ≤ (regrowN k s).2.cnt ∧
    ((regrowN k s).1 = false ↔ Hit s k) := by
  unfold Hit
  induction k with
  | zero => intro s; simp only [regrowN, FrM.refl, true_and]; simp
  | succ k ih =>
    intro s
    simp only [regrowN]
    split
    · next s' h =>
      obtain ⟨h2, h3, h4, h1⟩ := regrow_spec h
      refine ⟨h3, h4, by simp only; omega, ?_⟩
      simp only [true_iff]; omega
    · next s' h =>
      obtain ⟨h2, h3, h4, h1⟩ := regrow_spec h
      obtain ⟨a1, a2, a3, a4⟩ := ih s'
      have := h4.fa
      refine ⟨a1.trans h3, h4.trans a2, by omega, ?_⟩
      rw [a4]; omega

theorem rdlock_eq (hw : s.wr = 0) :
    rdlock s = { s with rd := s.rd + 1, trace := .R :: s.trace } := by
  unfold rdlock; rw [if_neg (by omega)]

theorem wrlock_eq (hr : s.rd = 0) (hw : s.wr = 0) :
    wrlock s = { s with wr := 1, trace := .W :: s.trace } := by
  unfold wrlock; rw [if_neg (by omega)]

theorem unlock_wr_eq (hw : s.wr = 1) :
    unlock s = { s with wr := 0, trace := .U :: s.trace } := by
  unfold unlock; rw [if_pos (by omega), hw]

theorem unlock_rd_eq (hr : s.rd = 1) (hw : s.wr = 0) :
    unlock s = { s with rd := 0, trace := .U :: s.trace } := by
  unfold unlock; rw [if_neg (by omega), if_pos (by omega), hr]

theorem mlock_eq (h : s.mtx = 0) :
    mlock s = { s with mtx := 1, trace := .M :: s.trace } := by
  unfold mlock; rw [if_neg (by omega)]

theorem munlock_eq (h : s.mtx = 1) :
    munlock s = { s with mtx := 0, trace := .m :: s.trace } := by
  unfold munlock; rw [if_pos (by omega), h]

/-- `cache_lock` taken under the shared read lock, as `kdump_get_attr` enters a revalidation -/
theorem enter_eq (h1 : s.rd = 0) (h2 : s.wr = 0) (h3 : s.mtx = 0) :
    mlock (rdlock s) = { s with rd := 1, mtx := 1, trace := .M :: .R :: s.trace } := by
  rw [rdlock_eq h2, mlock_eq (s := { s with rd := s.rd + 1, trace := .R :: s.trace }) h3, h1]

theorem exit_eq (h1 : s.rd = 1) (h2 : s.wr = 0) (h3 : s.mtx = 1) :
    unlock (munlock s) = { s with rd := 0, mtx := 0, trace := .U :: .m :: s.trace } := by
  rw [munlock_eq h3, unlock_rd_eq (s := { s with mtx := 0, trace := .m :: s.trace }) h1 h2]

end Kdf.Lemmas.Oom
