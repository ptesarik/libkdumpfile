import Kdf.Lemmas.XenSearch
import Kdf.Lemmas.XenBuild
import Kdf.Spec.XenIndex
/-!
# C19 — from the two halves to the statements about lists and dumps
-/
namespace Kdf.Lemmas.Xen
open Kdf.Model.Xen Kdf.Spec.XenIndex

section
variable (ok : Nat → Bool) (junk : Nat) (l : List Nat) (m : PMap) (hl : ∀ p ∈ l, p < W) (hnd : l.Nodup)
  (hlen : l.length < 2^63) (hb : build ok junk l = some m)
include hl hnd hlen hb

theorem found_of_build (i p : Nat) (hi : l[i]? = some p) : search m p = i := by
  obtain ⟨hs, hc⟩ := build_spec ok junk l m hl hnd hlen hb
  exact nodup_getElem?_inj hnd ((hc p _).mp (search_covers m hs p i ((hc p i).mpr hi))) hi

theorem none_of_build (p : Nat) (hn : p ∉ l) : search m p = IDX_NONE := by
  obtain ⟨hs, hc⟩ := build_spec ok junk l m hl hnd hlen hb
  exact search_not_covered m hs p fun i h => hn (List.mem_of_getElem? ((hc p i).mp h))

end

theorem frame_lt_W (shift f : Nat) (hf : f < 2^(64 - shift)) : f < W :=
  Nat.lt_of_lt_of_le hf (Nat.pow_le_pow_right (by decide) (Nat.sub_le 64 shift))

/-! The page list of a dump is one field (`key`) of its record table. -/

section
variable (ok : Nat → Bool) (junk : Nat) (key : Entry → Nat) {shift : Nat} {tbl : List Entry} {m : PMap}
  (hb : ∀ p ∈ tbl.map key, p < 2^(64 - shift)) (hnd : (tbl.map key).Nodup) (hlen : tbl.length < 2^63)
  (hm : build ok junk (tbl.map key) = some m)
include hb hnd hlen hm

theorem found_in_table {i : Nat} {e : Entry} (hi : tbl[i]? = some e) : search m (key e) = i :=
  found_of_build ok junk _ m (fun p h => frame_lt_W shift p (hb p h)) hnd (by rw [List.length_map]; exact hlen)
    hm i _ (by rw [List.getElem?_map, hi]; rfl)

theorem none_in_table {f : Nat} (hn : f ∉ tbl.map key) : search m f = IDX_NONE :=
  none_of_build ok junk _ m (fun p h => frame_lt_W shift p (hb p h)) hnd (by rw [List.length_map]; exact hlen)
    hm f hn

end

theorem lookupFrom_of_getElem (l : List Nat) (hnd : l.Nodup) (k i p : Nat) (hi : l[i]? = some p) :
    lookupFrom l k p = k + i := by
  induction l generalizing k i with
  | nil => rw [List.getElem?_nil] at hi; cases hi
  | cons x xs ih =>
    rw [List.nodup_cons] at hnd
    unfold lookupFrom
    cases i with
    | zero =>
      rw [List.getElem?_cons_zero] at hi
      rw [if_pos (Option.some.inj hi)]; rfl
    | succ j =>
      rw [List.getElem?_cons_succ] at hi
      rw [if_neg fun (e : x = p) => hnd.1 (e ▸ List.mem_of_getElem? hi), ih hnd.2 (k + 1) j hi]; omega

theorem lookupFrom_of_not_mem (l : List Nat) (k p : Nat) (hn : p ∉ l) : lookupFrom l k p = NONE := by
  induction l generalizing k with
  | nil => rfl
  | cons x xs ih =>
    rw [List.mem_cons, not_or] at hn
    unfold lookupFrom
    rw [if_neg (Ne.symm hn.1), ih (k + 1) hn.2]

theorem lookup_of_getElem (l : List Nat) (hnd : l.Nodup) (i p : Nat) (hi : l[i]? = some p) :
    lookup l p = i := by
  unfold lookup
  rw [lookupFrom_of_getElem l hnd 0 i p hi]; omega

theorem IDX_NONE_eq : IDX_NONE = NONE := rfl

theorem lookup_of_not_mem (l : List Nat) (p : Nat) (hn : p ∉ l) : lookup l p = NONE :=
  lookupFrom_of_not_mem l 0 p hn

theorem idx_ne_none (n i : Nat) (hn : n < 2^63) (hi : i < n) : i ≠ IDX_NONE := by
  have h63 : (2:Nat)^63 = 9223372036854775808 := by decide
  have hN : IDX_NONE = 18446744073709551615 := by decide
  rw [hN]; omega

theorem addr_div (shift f off : Nat) (hoff : off < 2^shift) : (f * 2^shift + off) / 2^shift = f := by
  rw [Nat.mul_comm, Nat.mul_add_div (Nat.two_pow_pos shift), Nat.div_eq_of_lt hoff, Nat.add_zero]
theorem addr_mod (shift f off : Nat) (hoff : off < 2^shift) : (f * 2^shift + off) % 2^shift = off := by
  rw [Nat.mul_add_mod', Nat.mod_eq_of_lt hoff]
theorem addr_lt (shift f off : Nat) (hs : shift ≤ 64) (hf : f < 2^(64 - shift)) (hoff : off < 2^shift) :
    f * 2^shift + off < W := by
  have h1 : (f + 1) * 2^shift ≤ 2^(64 - shift) * 2^shift := Nat.mul_le_mul_right _ hf
  have h2 : 2^(64 - shift) * 2^shift = W := by
    rw [← Nat.pow_add, Nat.sub_add_cancel hs]
  rw [h2, Nat.add_mul, Nat.one_mul] at h1
  omega

theorem mkDump_some {okP okM : Nat → Bool} {jP jM : Nat} {na be : Bool} {shift mapOff pagesOff : Nat}
    {tbl : List Entry} {d : Dump} (hd : mkDump okP okM jP jM na be shift mapOff pagesOff tbl = some d) :
    ∃ pm mm, build okP jP (pfns be tbl) = some pm ∧
      (if na then build okM jM (mfns be tbl) else some ⟨[], []⟩) = some mm ∧
      d = ⟨na, be, shift, mapOff, pagesOff, tbl, pm, mm⟩ := by
  unfold mkDump at hd
  cases hpm : build okP jP (pfns be tbl) with
  | none => rw [hpm] at hd; cases hd
  | some pm =>
    rw [hpm] at hd
    cases na
    · exact ⟨pm, _, rfl, rfl, (Option.some.inj hd).symm⟩
    · cases hmm : build okM jM (mfns be tbl) with
      | none => rw [hmm] at hd; cases hd
      | some mm => rw [hmm] at hd; exact ⟨pm, mm, rfl, rfl, (Option.some.inj hd).symm⟩

/-- `kdump_open_fd` keeps nothing of the context but the translation object, flagged dirty -/
theorem openCtx_eq (okP okM : Nat → Bool) (jP jM : Nat) (c : Ctx) (s : Spec) :
    openCtx okP okM jP jM c s =
      (mkDump okP okM jP jM s.p2m s.be s.shift s.mapOff s.pagesOff s.tbl).map
        fun d => ⟨s.p2m, some d, setOpt c.x⟩ := by
  unfold openCtx openCommon mkDump
  cases s.p2m
  · cases build okP jP (pfns s.be s.tbl) <;> rfl
  · cases build okP jP (pfns s.be s.tbl)
    · rfl
    · cases build okM jM (mfns s.be s.tbl) <;> rfl

/-- `revalidate_xlat` reports success exactly when it leaves the system clean -/
theorem revalidate_fst (d : Dump) (o : OsInit) (x : Xlat) :
    (revalidate d o x).1 = !(revalidate d o x).2.dirty := by
  unfold revalidate
  cases hd : x.dirty
  · simp [hd]
  · cases o <;> cases hn : d.nonauto <;> simp [vtopInit, xcPost, hn]

/-- `xc_p2m_first_step` and `xc_m2p_first_step` are one function of the index searched and
the field returned -/
def firstStep (map : PMap) (field : Entry → Nat) (d : Dump) (addr : Nat) : Except Err Step :=
  let idx := search map (addr / 2^d.shift)
  if idx = IDX_NONE then .error .nodata
  else match readEntry d idx with
    | none => .error .nodata
    | some e => .ok ⟨toh d.be (field e) * 2^d.shift % W, addr % 2^d.shift, 1, 1⟩

/-- the map `xc_get_page` consults -/
def pageMap (d : Dump) (as : AS) : PMap := if d.nonauto ∧ as = .machphys then d.mfnmap else d.pfnmap

theorem search_pageMap (d : Dump) (as : AS) (f : Nat) : search (pageMap d as) f =
    if d.nonauto ∧ as = .machphys then search d.mfnmap f else search d.pfnmap f :=
  apply_ite (search · f) _ _ _

theorem p2m_eq (d : Dump) (addr : Nat) :
    p2m d addr = (firstStep d.pfnmap Entry.mfn d addr).map finish := rfl
theorem m2p_eq (d : Dump) (addr : Nat) :
    m2p d addr = (firstStep d.mfnmap Entry.pfn d addr).map finish := rfl

section
variable (map : PMap) (field : Entry → Nat) (d : Dump) (as : AS) (f off : Nat) (hoff : off < 2^d.shift)
include hoff

theorem conv_ok (i : Nat) (e : Entry) (hs : d.shift ≤ 64) (hsearch : search map f = i) (hne : i ≠ IDX_NONE)
    (he : d.tbl[i]? = some e) (hm : toh d.be (field e) < 2^(64 - d.shift)) :
    (firstStep map field d (f * 2^d.shift + off)).map finish = .ok (toh d.be (field e) * 2^d.shift + off) := by
  have hb : toh d.be (field e) * 2^d.shift < W := by
    simpa using addr_lt d.shift _ 0 hs hm (Nat.two_pow_pos _)
  have hr := addr_lt d.shift _ off hs hm hoff
  unfold firstStep
  simp only [addr_div d.shift f off hoff, addr_mod d.shift f off hoff, hsearch, if_neg hne,
    readEntry, he, Except.map, finish, Nat.mul_one, Nat.mod_eq_of_lt hb, Nat.mod_eq_of_lt hr]

theorem conv_nodata (hsearch : search map f = IDX_NONE) :
    (firstStep map field d (f * 2^d.shift + off)).map finish = .error .nodata := by
  unfold firstStep
  simp only [addr_div d.shift f off hoff, hsearch, if_true, Except.map]

theorem getPage_ok (i : Nat) (hsearch : search (pageMap d as) f = i) (hne : i ≠ IDX_NONE)
    (hi : i < d.tbl.length) (hfile : d.pagesOff + d.tbl.length * 2^d.shift ≤ 2^63) :
    getPage d as (f * 2^d.shift + off) = .ok (d.pagesOff + i * 2^d.shift) := by
  have hlt : d.pagesOff + i * 2^d.shift < 2^63 := by
    have h1 : (i + 1) * 2^d.shift ≤ d.tbl.length * 2^d.shift := Nat.mul_le_mul_right _ hi
    have h2 := Nat.two_pow_pos d.shift
    rw [Nat.add_mul, Nat.one_mul] at h1
    omega
  unfold getPage
  simp only [addr_div d.shift f off hoff, ← search_pageMap, hsearch, if_neg hne, if_pos hlt]

theorem getPage_nodata (hsearch : search (pageMap d as) f = IDX_NONE) :
    getPage d as (f * 2^d.shift + off) = .error .nodata := by
  unfold getPage
  simp only [addr_div d.shift f off hoff, ← search_pageMap, hsearch, if_true]

end

end Kdf.Lemmas.Xen
