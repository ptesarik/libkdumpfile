import Kdf.Spec.Route
import Kdf.Lemmas.Map
/-!
# Lemmas for C09 (`Kdf/Model/Sys.lean`)

`do_op` is reasoned about through its declarative form (`Kdf/Spec/Route.lean`): what a route
answers is what one map contributes (`cand`).  The walk of a method is followed once, for any
relation between results kept by `.ok`, failures other than OK and `>>=` (`Closed`, `walk_rel`).
-/
namespace Kdf.Lemmas.Sys
open Kdf.Model.Pgt Kdf.Model.Sys Kdf.Spec.Route
open Kdf.Model.Map (Map mapSearch NONE)
open Kdf.Lemmas.Map (mapSearch_mem)

theorem capsHas_lt {caps as : Nat} (h : capsHas caps as = true) : as < 3 := by
  unfold capsHas at h
  simp at h
  exact h.1

/-- bit `as` of `2^t` is set only for `as = t` -/
theorem two_pow_bit {t as : Nat} (h : 2^t / 2^as % 2 = 1) : as = t := by
  have hb : (2^t).testBit as = true := by rw [Nat.testBit_eq_decide_div_mod_eq]; exact decide_eq_true h
  rw [Nat.testBit_two_pow] at hb
  exact (of_decide_eq_true hb).symm

theorem capsHas_capsOf {t as : Nat} (h : capsHas (capsOf t) as = true) : as = t ∧ t < 3 := by
  unfold capsHas capsOf at h
  by_cases ht : t < 3
  · simp only [ht, if_true, Bool.and_eq_true, beq_iff_eq] at h
    exact ⟨two_pow_bit h.2, ht⟩
  · simp [ht] at h

theorem pre_cases {c : Cfg} {caps : Nat} {a : FullAddr} {x : Except OpRes (Sys × Chain)} (h : pre c caps a = x) :
    (capsHas caps a.as = true ∧ x = .error (.call a)) ∨ x = .error (.fail .nometh) ∨
    x = .error (.fail .notimpl) ∨ ∃ sys ch, c.sys = some sys ∧ x = .ok (sys, ch) := by
  unfold pre at h
  split at h
  · exact .inl ⟨‹_›, h.symm⟩
  · split at h
    · exact .inr (.inl h.symm)
    · split at h
      · exact .inr (.inl h.symm)
      · split at h
        · exact .inr (.inr (.inl h.symm))
        · exact .inr (.inr (.inr ⟨_, _, ‹_›, h.symm⟩))

section Route
variable (sys : Sys) (caps : Nat) (wk : WalkFn) (a : FullAddr)

theorem stage_cons (mi : Nat) (ms : List Nat) :
    stage sys caps wk (mi :: ms) a =
      match cand sys wk a mi with
      | none => stage sys caps wk ms a
      | some (.call fa) => if capsHas caps fa.as then .done (.call fa) else .next fa
      | some r => .done r := by
  unfold stage
  simp only [List.filterMap_cons]
  cases cand sys wk a mi with
  | none => rfl
  | some r => cases r <;> rfl

/-- Inner loop of `do_op` = "the first contributing map of the stage decides". -/
theorem tryAlt_eq_stage (alt : List Nat) : tryAlt sys caps wk alt a = stage sys caps wk alt a := by
  induction alt with
  | nil => rfl
  | cons mi ms ih =>
    -- `tryAlt` and `cand` make the same tests in the same order
    rw [stage_cons, ← ih, tryAlt]
    unfold cand
    by_cases h1 : a.as ≠ mapExpectAs mi
    · rw [if_pos h1, if_pos h1]
    rw [if_neg h1, if_neg h1]
    cases sys.maps[mi]? with
    | none => rfl
    | some om =>
      cases om with
      | none => rfl
      | some m =>
        simp only []
        by_cases h3 : mapSearch m a.addr = NONE
        · rw [if_pos h3, if_pos h3]
        rw [if_neg h3, if_neg h3]
        cases methAt sys (mapSearch m a.addr) with
        | none => rfl
        | some meth =>
          cases meth
          case linear => rfl
          -- every other method is walked, and `den` is where the walk ends
          all_goals
            simp only [den]
            generalize wk _ a.addr = r
            cases r with
            | ok s => rfl
            | error e => by_cases he : e = .nometh ∨ e = .nodata <;> simp only [Except.map, he, if_true, if_false]

theorem doOp_eq_route (alts : List (List Nat)) : doOp sys caps wk alts a = route sys caps wk alts a := by
  induction alts generalizing a with
  | nil => rfl
  | cons alt rest ih =>
    unfold doOp route
    rw [tryAlt_eq_stage]
    cases stage sys caps wk alt a with
    | done r => rfl
    | next a' => exact ih a'

variable {sys caps wk a} {r : OpRes}

theorem stage_done {alt : List Nat} (h : stage sys caps wk alt a = .done r) :
    (∃ mi ∈ alt, cand sys wk a mi = some r) ∧ ∀ fa, r = .call fa → capsHas caps fa.as = true := by
  unfold stage at h
  cases hh : (alt.filterMap (cand sys wk a)).head? with
  | none => rw [hh] at h; cases h
  | some r' =>
    rw [hh] at h
    have hmi := List.mem_filterMap.mp (List.mem_of_mem_head? hh)
    cases r' with
    | call fa =>
      simp only [] at h
      split at h
      · cases h
        exact ⟨hmi, fun _ e => by cases e; assumption⟩
      · cases h
    | fail e => cases h; exact ⟨hmi, nofun⟩
    | oob => cases h; exact ⟨hmi, nofun⟩

theorem route_cases {alts : List (List Nat)} (h : route sys caps wk alts a = r) :
    r = .fail .nometh ∨
    (∃ alt ∈ alts, ∃ mi ∈ alt, ∃ a', cand sys wk a' mi = some r) ∧ ∀ fa, r = .call fa → capsHas caps fa.as = true := by
  induction alts generalizing a with
  | nil => exact .inl h.symm
  | cons alt rest ih =>
    rw [route] at h
    cases hs : stage sys caps wk alt a with
    | done r' =>
      rw [hs] at h
      subst h
      obtain ⟨⟨mi, hmi, hc⟩, hcall⟩ := stage_done hs
      exact .inr ⟨⟨alt, List.mem_cons_self, mi, hmi, a, hc⟩, hcall⟩
    | next a' =>
      rw [hs] at h
      rcases ih h with h0 | ⟨⟨alt', ha, rest'⟩, hcall⟩
      · exact .inl h0
      · exact .inr ⟨⟨alt', List.mem_cons_of_mem _ ha, rest'⟩, hcall⟩

end Route

/-- which map answers, and with which method, does not depend on the walk function -/
theorem cand_cases (sys : Sys) (a : FullAddr) (mi : Nat) :
    (∀ wk, cand sys wk a mi = none) ∨
    ((sys.maps.length ≤ mi ∨ ∃ m, some m ∈ sys.maps ∧ mapSearch m a.addr ≠ NONE ∧
        methAt sys (mapSearch m a.addr) = none) ∧ ∀ wk, cand sys wk a mi = some .oob) ∨
    ∃ meth, ∀ wk, cand sys wk a mi =
      match den wk meth a.addr with
      | .ok fa => some (.call fa)
      | .error e => if e = .nometh ∨ e = .nodata then none else some (.fail e) := by
  unfold cand
  by_cases h1 : a.as ≠ mapExpectAs mi
  · exact .inl fun _ => if_pos h1
  simp only [if_neg h1]
  cases hm : sys.maps[mi]? with
  | none => exact .inr (.inl ⟨.inl (List.getElem?_eq_none_iff.mp hm), fun _ => rfl⟩)
  | some om =>
    cases om with
    | none => exact .inl fun _ => rfl
    | some m =>
      simp only []
      by_cases h3 : mapSearch m a.addr = NONE
      · exact .inl fun _ => if_pos h3
      simp only [if_neg h3]
      cases hmeth : methAt sys (mapSearch m a.addr) with
      | none => exact .inr (.inl ⟨.inr ⟨m, List.mem_of_getElem? hm, h3, hmeth⟩, fun _ => rfl⟩)
      | some meth => exact .inr (.inr ⟨meth, fun _ => rfl⟩)

/-- `hlen`, `hidx`: what `addrxlat_sys_set_map`/`addrxlat_map_set` build -/
theorem cand_ne_oob {sys : Sys} {mi : Nat} (hlen : mi < sys.maps.length)
    (hidx : ∀ m, some m ∈ sys.maps → ∀ r ∈ m,
      r.meth = NONE ∨ (0 ≤ r.meth ∧ r.meth.toNat < sys.meths.length))
    (wk : WalkFn) (a : FullAddr) : cand sys wk a mi ≠ some .oob := by
  rcases cand_cases sys a mi with hc | ⟨hwhy, _⟩ | ⟨meth, hc⟩
  · rw [hc]; nofun
  · exfalso
    rcases hwhy with hge | ⟨m, hm, hne, hnone⟩
    · omega
    · -- the index found is stored in the map, hence a valid method index
      rcases mapSearch_mem m a.addr with h0 | ⟨r, hr, he⟩
      · exact hne h0
      · rcases he ▸ hidx m hm r hr with h0 | ⟨h1, h2⟩
        · exact hne h0
        · unfold methAt at hnone
          rw [if_neg (by omega), List.getElem?_eq_getElem h2] at hnone
          cases hnone
  · rw [hc]
    cases den wk meth a.addr with
    | ok fa => nofun
    | error e => simp only []; split <;> nofun

theorem walkLoop_succ (extra : Extra) (mem : Mem) (m : Meth) (fuel : Nat) (s : Step) :
    walkLoop extra mem m (fuel+1) s =
      if s.remain - 1 = 0 then
        .ok { s with remain := 0, elemsz := 0, base := ⟨(s.base.addr + idxAt s 0 * s.elemsz) % W, m.targetAs⟩ }
      else
        nextStep extra mem m
          { s with remain := s.remain - 1, base := { s.base with addr := (s.base.addr + idxAt s (s.remain - 1) * s.elemsz) % W } }
        >>= walkLoop extra mem m fuel := by
  rw [walkLoop]
  simp only []
  split
  · rfl
  · cases nextStep extra mem m _ <;> rfl

theorem walk_eq (extra : Extra) (mem : Mem) (m : Meth) (addr : Nat) :
    walk extra mem m addr =
      firstStep m addr >>= fun s => if s.remain = 0 then .ok s else walkLoop extra mem m (s.remain + 1) s := by
  unfold walk
  cases firstStep m addr <;> rfl

/-- A walk is built from `.ok`, failures with a status other than OK, `>>=` and reads of the memory,
so a relation between results that these keep carries over from the memory to the walk. -/

structure Closed (R : ∀ {α : Type}, Except XStatus α → Except XStatus α → Prop) : Prop where
  ok : ∀ {α} (v : α), R (.ok v) (.ok v)
  err : ∀ {α} {e : XStatus}, e ≠ .ok → R (.error e : Except XStatus α) (.error e)
  bind : ∀ {α β} {x y : Except XStatus α} {k l : α → Except XStatus β},
    R x y → (∀ v, R (k v) (l v)) → R (x >>= k) (y >>= l)

section Closed
variable {R : ∀ {α : Type}, Except XStatus α → Except XStatus α → Prop}

theorem rel_ite {α} {c : Prop} [Decidable c] {x x' y y' : Except XStatus α} (hx : R x x') (hy : R y y') :
    R (if c then x else y) (if c then x' else y') := by
  split <;> assumption

variable (hR : Closed R)
include hR

/-- `if c then throw e` in front of the rest of a `do` block -/
theorem Closed.guard {α} {c : Prop} [Decidable c] {e : XStatus} {k k' : Except XStatus α} (he : e ≠ .ok)
    (hk : R k k') :
    R (if c then (throw e >>= fun (_ : PUnit) => k) else k) (if c then (throw e >>= fun (_ : PUnit) => k') else k') :=
  rel_ite (hR.bind (hR.err he) fun _ => hk) hk

theorem Closed.map {α β} (f : α → β) {x y : Except XStatus α} (hxy : R x y) : R (x.map f) (y.map f) := by
  have := hR.bind hxy fun v => hR.ok (f v)
  cases x <;> cases y <;> exact this

theorem Closed.read {α} (f : Nat → α) {x y : Except XStatus Nat} :
    R x y → R (match x with | .error e => .error e | .ok v => .ok (f v))
      (match y with | .error e => .error e | .ok v => .ok (f v)) := by
  intro hxy
  have := hR.map f hxy
  cases x <;> cases y <;> exact this

theorem firstStep_rel (m : Meth) (addr : Nat) : R (firstStep m addr) (firstStep m addr) := by
  unfold firstStep
  cases m with
  | nometh => exact hR.err nofun
  | linear _ _ => exact hR.ok _
  | memarr _ _ _ _ _ => exact hR.ok _
  | custom t mask hit miss =>
    simp only [firstStepCustom]
    generalize (if addr &&& mask ≠ 0 then hit else miss) = arm
    cases arm with
    | finish _ _ => exact hR.ok _
    | step _ _ => exact hR.ok _
    | fail st =>
      -- a callback's failure status OK is reported as NOMETH
      exact hR.err fun h => by split at h <;> contradiction
  | lookup t eo tb =>
    simp only []
    generalize tb.find? _ = hit
    cases hit with
    | none => exact hR.err nofun
    | some p => exact hR.ok _
  | pgt t root pm pf =>
    have hg : R (firstStepPgtGeneric root pf addr) (firstStepPgtGeneric root pf addr) := by
      unfold firstStepPgtGeneric
      exact rel_ite (hR.err nofun) (hR.ok _)
    simp only []
    cases pf.fmt with
    | none | aarch64 | aarch64Lpa | aarch64Lpa2 | arm | ppc64LinuxRpn30 => exact hg
    | riscv32 => exact hR.err nofun
    | _ => exact hR.bind hg fun _ => rel_ite (hR.err nofun) (hR.ok _)

variable {mem1 mem2 : Mem} (h : ∀ as a s, R (mem1 as a s) (mem2 as a s))
include h

theorem readPte_rel (sz pm : Nat) (s : Step) : R (readPte mem1 sz pm s) (readPte mem2 sz pm s) := by
  unfold readPte
  exact hR.read _ (h _ _ _)

/-- every handler: `readPte`, a presence test that throws NOTPRESENT, a choice between `pure`s -/
theorem nextStep_rel (m : Meth) (s : Step) : R (nextStep noExtra mem1 m s) (nextStep noExtra mem2 m s) := by
  cases m with
  | nometh => exact hR.err nofun
  | memarr t b sh es vs =>
    show R (nextMemarr mem1 t sh vs s) (nextMemarr mem2 t sh vs s)
    unfold nextMemarr
    exact rel_ite (hR.read _ (h _ _ _)) (hR.err nofun)
  | pgt t root pm pf =>
    show R (nextStepPgt noExtra mem1 t pm pf s) (nextStepPgt noExtra mem2 t pm pf s)
    have rd : ∀ sz (k : Step × Nat → Except XStatus Step), (∀ s1 pte, R (k (s1, pte)) (k (s1, pte))) →
        R (readPte mem1 sz pm s >>= k) (readPte mem2 sz pm s >>= k) :=
      fun sz k hk => hR.bind (readPte_rel hR h sz pm s) fun p => hk p.1 p.2
    unfold nextStepPgt
    cases pf.fmt with
    | none => exact hR.ok _
    | pfn32 | pfn64 => exact rd _ _ fun _ _ => hR.guard nofun (hR.ok _)
    | ia32 | ia32Pae => exact rd _ _ fun _ _ => hR.guard nofun (rel_ite (hR.ok _) (hR.ok _))
    | riscv64 =>
      exact rd _ _ fun _ _ => hR.guard nofun (rel_ite (hR.ok _) (rel_ite (hR.err nofun) (hR.ok _)))
    | x86_64 =>
      exact rd _ _ fun _ _ => hR.guard nofun (rel_ite (hR.ok _) (rel_ite (hR.ok _) (hR.ok _)))
    | _ => exact hR.err nofun
  | _ => exact hR.ok _

theorem walkLoop_rel (m : Meth) (fuel : Nat) (s : Step) :
    R (walkLoop noExtra mem1 m fuel s) (walkLoop noExtra mem2 m fuel s) := by
  induction fuel generalizing s with
  | zero => exact hR.err nofun
  | succ n ih =>
    rw [walkLoop_succ, walkLoop_succ]
    exact rel_ite (hR.ok _) (hR.bind (nextStep_rel hR h m _) ih)

theorem walk_rel (m : Meth) (addr : Nat) : R (walk noExtra mem1 m addr) (walk noExtra mem2 m addr) := by
  rw [walk_eq, walk_eq]
  exact hR.bind (firstStep_rel hR m addr) fun s => rel_ite (hR.ok _) (walkLoop_rel hR h m _ s)

omit h
theorem den_rel {wk1 wk2 : WalkFn} (hw : ∀ m x, R (wk1 m x) (wk2 m x)) (m : Meth) (x : Nat) :
    R (den wk1 m x) (den wk2 m x) := by
  cases m with
  | linear t off => exact hR.ok _
  | _ => exact hR.map _ (hw _ x)

end Closed

/-- `x` answers NOTIMPL or the same as `y` -/
def Le {α} (x y : Except XStatus α) : Prop := x = .error .notimpl ∨ x = y

theorem Le.closed : Closed @Le where
  ok _ := .inr rfl
  err _ := .inr rfl
  bind := fun {_ _ _ y _ _} h hk => by
    rcases h with h | h
    · left; rw [h]; rfl
    · rw [h]
      cases y with
      | error e => right; rfl
      | ok v => exact hk v

def MemLe (mem1 mem2 : Mem) : Prop := ∀ as a s, Le (mem1 as a s) (mem2 as a s)

def WalkLe (wk1 wk2 : WalkFn) : Prop := ∀ m x, Le (wk1 m x) (wk2 m x)

theorem walk_le {mem1 mem2 : Mem} (h : MemLe mem1 mem2) : WalkLe (walk noExtra mem1) (walk noExtra mem2) :=
  walk_rel Le.closed h

section Walk
variable {wk1 wk2 : WalkFn} (h : WalkLe wk1 wk2) (sys : Sys) (caps : Nat)
include h

theorem cand_le (a : FullAddr) (mi : Nat) :
    cand sys wk1 a mi = some (.fail .notimpl) ∨ cand sys wk1 a mi = cand sys wk2 a mi := by
  rcases cand_cases sys a mi with hc | ⟨_, hc⟩ | ⟨meth, hc⟩
  · right; rw [hc, hc]
  · right; rw [hc, hc]
  · rcases den_rel Le.closed h meth a.addr with hd | hd
    · left; rw [hc, hd]; rfl
    · right; rw [hc, hc, hd]

theorem stage_le (alt : List Nat) (a : FullAddr) :
    stage sys caps wk1 alt a = .done (.fail .notimpl) ∨ stage sys caps wk1 alt a = stage sys caps wk2 alt a := by
  induction alt with
  | nil => right; rfl
  | cons mi ms ih =>
    rw [stage_cons, stage_cons]
    rcases cand_le h sys a mi with hc | hc
    · left; rw [hc]
    · rw [hc]
      cases cand sys wk2 a mi with
      | none => exact ih
      | some r => cases r <;> exact .inr rfl

theorem route_le (alts : List (List Nat)) (a : FullAddr) :
    route sys caps wk1 alts a = .fail .notimpl ∨ route sys caps wk1 alts a = route sys caps wk2 alts a := by
  induction alts generalizing a with
  | nil => right; rfl
  | cons alt rest ih =>
    unfold route
    rcases stage_le h sys caps alt a with h1 | h1
    · left; rw [h1]
    · rw [h1]
      cases stage sys caps wk2 alt a with
      | done r => right; rfl
      | next a' => exact ih a'

end Walk

/-- the result is not "NOTIMPL returned from the inner loop" -/
def AltRes.clean : AltRes → Prop
  | .done (.fail .notimpl) => False
  | _ => True

end Kdf.Lemmas.Sys

namespace Kdf.Lemmas.SysSound
open Kdf.Model.Pgt Kdf.Model.Sys Kdf.Spec.Route Kdf.Lemmas.Sys

/-! A `get_page` callback signals failure by a status other than `ADDRXLAT_OK`; then neither a walk
nor a route fails "with status OK". -/

/-- a result that is not "failed with status OK" -/
def NotOkErr {α} (r : Except XStatus α) : Prop := r ≠ .error .ok

def MemSound (mem : Mem) : Prop := ∀ as a s, NotOkErr (mem as a s)

theorem notOk_closed : Closed fun x _ => NotOkErr x where
  ok _ := nofun
  err h := fun h2 => by cases h2; exact h rfl
  bind := fun {_ _ x _ _ _} hx hk => by
    cases x with
    | error e => intro h2; cases h2; exact hx rfl
    | ok v => exact hk v

theorem walk_notOkErr {mem : Mem} (h : MemSound mem) (m : Meth) (addr : Nat) : NotOkErr (walk noExtra mem m addr) :=
  walk_rel (mem2 := mem) notOk_closed h m addr

theorem cand_ne_fail_ok {wk : WalkFn} (hw : ∀ m x, NotOkErr (wk m x)) (sys : Sys) (a : FullAddr) (mi : Nat) :
    cand sys wk a mi ≠ some (.fail .ok) := by
  rcases cand_cases sys a mi with hc | ⟨_, hc⟩ | ⟨meth, hc⟩
  · rw [hc]; nofun
  · rw [hc]; nofun
  · rw [hc]
    cases hd : den wk meth a.addr with
    | ok fa => nofun
    | error e =>
      simp only []
      split
      · nofun
      · intro h; cases h; exact den_rel (wk2 := wk) notOk_closed hw meth a.addr hd

theorem nestedRead_notOkErr {pm : Mem} (hpm : MemSound pm) (size : Nat) {r : OpRes} (hr : r ≠ .fail .ok) :
    NotOkErr (nestedRead pm size r) := by
  cases r with
  | call fa => exact hpm fa.as fa.addr size
  | fail e => exact fun he => hr (by cases he; rfl)
  | oob => nofun

end Kdf.Lemmas.SysSound
