import Kdf.Model.PgtS390x
import Kdf.Spec.ArchS390x
import Kdf.Lemmas.PgtForm
/-! C02, z/Architecture: the handler `pgt_s390x` agrees with `decodeS390x library` at every level. -/
namespace Kdf.Lemmas.PgtS390x
open Kdf.Model.Pgt Kdf.Spec.ArchWalk Kdf.Lemmas.Pgt Kdf.Model.PgtArch Kdf.Model.PgtS390x
open Kdf.Spec.ArchS390x Kdf.Lemmas.PgtWalk

abbrev forms : List (List Nat) :=
  [[12, 8, 11], [12, 8, 11, 11], [12, 8, 11, 11, 11], [12, 8, 11, 11, 11, 11]]

theorem forms_of_arch (pf : PagingForm) (h : archFormS390x pf = true) :
    pf.fmt = .s390x ∧ pf.fieldsz ∈ forms := by
  simp only [archFormS390x, Bool.and_eq_true, Bool.or_eq_true, decide_eq_true_eq] at h
  refine ⟨h.1, ?_⟩
  rcases h.2 with ((h | h) | h) | h <;> rw [h] <;> decide

structure S390Fields (pf : PagingForm) : Prop where
  fmt : pf.fmt = .s390x
  len2 : 2 ≤ pf.fieldsz.length
  lt64 : ∀ b ∈ pf.fieldsz, b < 64
  span : spanBits pf.fieldsz pf.fieldsz.length ≤ 64

theorem s390Fields_of_form (pf : PagingForm) (h : archFormS390x pf = true) : S390Fields pf := by
  have key : ∀ l ∈ forms, 2 ≤ l.length ∧ (∀ b ∈ l, b < 64) ∧ spanBits l l.length ≤ 64 := by decide
  obtain ⟨hfmt, hf⟩ := forms_of_arch pf h
  obtain ⟨a, b, c⟩ := key _ hf
  exact ⟨hfmt, a, b, c⟩

/-- `% 2^32`: the C code keeps the quarter index in an `unsigned` -/
theorem quarter_bits (va p : Nat) : va / 2^p % 2^11 / 2^9 % 2^32 = va / 2^(p+9) % 2^2 := by
  rw [mod_pow_div_pow _ 9 11 (by decide), Nat.div_div_eq_div_mul, ← Nat.pow_add]
  exact Nat.mod_eq_of_lt (Nat.lt_trans (Nat.mod_lt _ (by decide)) (by decide))

theorem region_fields : ∀ l ∈ forms, ∀ r ∈ [3, 4, 5], r ≤ l.length →
    l.getD (r - 1) 0 = 11 ∧ spanBits l (r - 1) = 12 + 8 + 11 * (r - 3) := by decide

/-- `idx[remain-1] >> (fieldsz[remain-1] - 2)` is the two leftmost bits of the next index
(RSX 11–12, RTX 22–23, SX 33–34) on the architectural forms. -/
theorem pgidx_quarter (pf : PagingForm) (hform : archFormS390x pf = true) (va : Nat) (s : Step)
    (hinv : IdxOK pf va s.idx) (r : Nat) (h3 : 3 ≤ r) (h5 : r ≤ 5) (hrn : r ≤ pf.fieldsz.length) :
    idxAt s (r - 1) / 2 ^ pgidxShift pf r % 2 ^ 32 = nextQuarter va r := by
  rcases (by omega : r = 3 ∨ r = 4 ∨ r = 5) with rfl | rfl | rfl
  all_goals
    obtain ⟨hw, hs⟩ := region_fields _ (forms_of_arch pf hform).2 _ (by decide) hrn
    rw [show pgidxShift pf _ = 9 by rw [pgidxShift, fieldAt, hw], idxAt, hinv.2 _ (by omega), hw, hs,
      quarter_bits]
    rfl

theorem stepSim_s390x (mem : Mem) (t pteMask : Nat) (pf : PagingForm) (va : Nat)
    (hform : archFormS390x pf = true) (hmask : pteMask < W) :
    StepSim (decodeS390x library va) mem t pteMask pf 8 va := by
  have hF := s390Fields_of_form pf hform
  refine stepSim_of_body (fun s => by simp only [nextStepPgt, hF.fmt, extra]; rfl) hmask ?_
  intro s1 raw pte hr1 hrn hinv _ _
  have eI : rsteI pte = fld pte 58 1 := rfl
  have ePI : pteI pte = fld pte 53 1 := rfl
  have eFC : rsteFC pte = fld pte 53 1 := rfl
  have eTT : rsteTT pte = fld pte 60 2 := rfl
  have eTF : rsteTF pte = fld pte 56 2 := rfl
  have eTL : rsteTL pte = fld pte 62 2 := rfl
  have bI : fld pte 58 1 < 2 := Nat.mod_lt _ (by decide)
  have bFC : fld pte 53 1 < 2 := Nat.mod_lt _ (by decide)
  have bTT : fld pte 60 2 < 4 := Nat.mod_lt _ (by decide)
  by_cases h1 : s1.remain = 1
  · -- page-table entry
    simp only [h1, eI, ePI, eFC, eTT, eTF, eTL, decodeS390x, library, bind, Except.bind, throw, throwThe,
      MonadExceptOf.throw, pure, Except.pure]
    simp
    by_cases hi : fld pte 53 1 = 0
    · rw [if_neg (by omega), if_pos hi]
      exact ⟨_, rfl, rfl, rfl, rfl, idxAt_zero hinv (by omega)⟩
    · rw [if_pos (by omega), if_neg hi]; rfl
  by_cases h2 : s1.remain = 2
  · -- segment-table entry
    simp only [h2, eI, ePI, eFC, eTT, eTF, eTL, decodeS390x, library, bind, Except.bind, throw, throwThe,
      MonadExceptOf.throw, pure, Except.pure]
    simp
    by_cases hI : fld pte 58 1 = 0
    case neg => rw [if_pos (by omega), if_neg hI]; rfl
    rw [if_neg (by omega), if_pos hI]
    by_cases hTT : fld pte 60 2 = 0
    case neg => rw [if_neg hTT, if_neg hTT]; rfl
    rw [if_pos hTT, if_pos hTT]
    by_cases hFC : fld pte 53 1 = 0
    · rw [if_neg (by omega), if_pos hFC]
      exact ⟨by decide, _, rfl, rfl, rfl, rfl, rfl⟩
    · rw [if_pos (by omega), if_neg hFC]
      exact simRes_huge rfl (by decide) (by omega) hinv hF.span rfl
  -- region-table entry
  have hgt : s1.remain > 1 := by omega
  have hge2 : s1.remain ≥ 2 := by omega
  have hge3 : s1.remain ≥ 3 := by omega
  simp only [h1, h2, hgt, hge2, hge3, eI, ePI, eFC, eTT, eTF, eTL, decodeS390x, library, bind, Except.bind,
    throw, throwThe, MonadExceptOf.throw, pure, Except.pure]
  simp
  by_cases hI : fld pte 58 1 = 0
  case neg => rw [if_pos (by omega), if_neg hI]; rfl
  rw [if_neg (by omega), if_pos hI]
  by_cases hTT : fld pte 60 2 = s1.remain - 2
  case neg => rw [if_neg hTT, if_neg hTT]; rfl
  rw [if_pos hTT, if_pos hTT]
  by_cases h3 : s1.remain = 3 ∧ ¬ fld pte 53 1 = 0
  · rw [if_pos (by omega), if_pos h3]
    exact simRes_huge rfl hr1 (Nat.le_of_lt hrn) hinv hF.span rfl
  rw [if_neg (by omega), if_neg h3]
  have hz : idxAt ({ s1 with raw := raw, base := ⟨pte, t⟩ } : Step) (s1.remain - 1) /
      2 ^ pgidxShift pf s1.remain % 4294967296 = nextQuarter va s1.remain :=
    pgidx_quarter pf hform va _ hinv s1.remain hge3 (by omega) (Nat.le_of_lt hrn)
  rw [hz]
  by_cases hq : nextQuarter va s1.remain < fld pte 56 2 ∨ fld pte 62 2 < nextQuarter va s1.remain
  · rw [if_pos hq, if_pos hq]; rfl
  · rw [if_neg hq, if_neg hq]
    exact ⟨hge2, _, rfl, rfl, rfl, rfl, rfl⟩

theorem sameResult_eq {a b : Except XStatus FullAddr} (h : sameResult a b = true) : a = b := by
  cases a <;> cases b <;> simp [sameResult] at h <;> simp [h]

end Kdf.Lemmas.PgtS390x
