import Kdf.Lemmas.ConcInv
import Kdf.Lemmas.ConcCache
import Kdf.Lemmas.ConcUtil
/-!
Preservation of the global invariant `GInv` by every step of every thread of the
concurrency model (repaired put), hence `GInv` in every reachable state, under every schedule.
-/
namespace Kdf.Lemmas.Conc
open Kdf.Model.Cache Kdf.Model.Conc Kdf.Lemmas.Cache Kdf.Lemmas.ConcCache

variable {cap n : Nat} {s s' : State} {t : Nat}

def Pc.isPutU : Pc → Bool
  | .putU _ _ => true
  | _ => false

/-- `pc'` plays the role of `pc` for every classifier the invariant uses (inside a read, same held
entry, same `validAt` and `filledOk`) and is not the unlocked put -/
def Pc.SameRole (pc pc' : Pc) : Prop :=
  Pc.reading pc = true ∧ Pc.reading pc' = true ∧ pc'.holds = pc.holds ∧
  Pc.validAt pc' = Pc.validAt pc ∧ Pc.filledOk pc' = Pc.filledOk pc ∧ Pc.isPutU pc' = false

theorem ginv_pcstep {pc' : Pc} {l : Option Nat} (h : GInv cap n s) (ht : t < s.thr.length)
    (hok : Pc.SameRole (s.thread t).pc pc')
    (hl : LockStep s ({ s with lock := l }.setPc t pc') t (s.thread t).pc pc') :
    GInv cap n ({ s with lock := l }.setPc t pc') := by
  obtain ⟨h1, h2, h3, h4, h5, h6⟩ := hok
  refine GInv.of_cinv_reader h ht rfl rfl rfl h1 h2 (h.bad (s.thread t) (thread_mem ht)) ?_ hl ?_
  · intro e tmp hx
    have : pc' = .putU e tmp := hx
    rw [this] at h6; cases h6
  · exact cinv_keep h ht rfl rfl rfl h3 (fun _ _ => ⟨rfl, rfl⟩)
      (fun e he => h.valid t e (h4 ▸ he)) (fun hf => h5 ▸ hf)

theorem ginv_acquire {pc' : Pc} (h : GInv cap n s)
    (ht : t < s.thr.length)
    (hs : (if s.lock.isSome = true then Res.blocked
      else Res.ok ({ s with lock := some t }.setPc t pc')) = Res.ok s')
    (hok : Pc.SameRole (s.thread t).pc pc') (hl : pc'.hasLock = true) : GInv cap n s' := by
  split at hs
  · cases hs
  · rename_i hn
    injection hs with hs; subst hs
    exact ginv_pcstep h ht hok (Or.inr (Or.inl ⟨Option.not_isSome_iff_eq_none.1 hn, rfl, hl⟩))

theorem ginv_release {pc' : Pc} (h : GInv cap n s)
    (ht : t < s.thr.length)
    (hs : Res.ok ({ s with lock := none }.setPc t pc') = Res.ok s')
    (hok : Pc.SameRole (s.thread t).pc pc') (hl0 : (s.thread t).pc.hasLock = true)
    (hl : pc'.hasLock = false) : GInv cap n s' := by
  injection hs with hs; subst hs
  exact ginv_pcstep h ht hok (Or.inr (Or.inr ⟨hl0, rfl, hl⟩))

theorem rd_idle : Pc.reading .idle = false := rfl
theorem rd_writing : Pc.reading .writing = false := rfl
theorem rd_inRead : Pc.reading .inRead = true := rfl

/-- A step on `shared->lock` by a thread that holds no entry and is outside every `cache_lock`
section: only the three clauses about `shared->lock` are at stake. -/
theorem ginv_rw {pc' : Pc} (h : GInv cap n s) (ht : t < s.thr.length)
    (hthr : s'.thr = s.thr.modify t (fun x => { x with pc := pc' }))
    (hcache : s'.cache = s.cache) (hbuf : s'.buf = s.buf) (hlock : s'.lock = s.lock)
    (hh : (s.thread t).pc.holds = none) (hl : (s.thread t).pc.hasLock = false)
    (hh' : pc'.holds = none) (hl' : pc'.hasLock = false)
    (hself : pc' = .writing ↔ s'.writer = some t)
    (hoth : ∀ t', t' ≠ t → (s.writer = some t' ↔ s'.writer = some t'))
    (hX : s'.writer.isSome → Pc.reading pc' = false ∧
      s.readers = if Pc.reading (s.thread t).pc = true then 1 else 0)
    (hr : s'.readers + (if Pc.reading (s.thread t).pc = true then 1 else 0) =
      s.readers + (if Pc.reading pc' = true then 1 else 0)) : GInv cap n s' := by
  have hcount : (s'.thr.filter fun th => Pc.reading th.pc).length +
      (if Pc.reading (s.thread t).pc = true then 1 else 0) =
      (s.thr.filter fun th => Pc.reading th.pc).length + (if Pc.reading pc' = true then 1 else 0) :=
    reading_upd ht hthr
  have hrdN := h.rdN
  refine GInv.of_cinv h ht hthr (h.bad (s.thread t) (thread_mem ht)) ?_ (Or.inl ⟨hlock, hl'.trans hl.symm⟩) ?_
    ?_ ?_ (by omega)
  · intro e tmp hx
    have : pc' = .putU e tmp := hx
    rw [this] at hh'; cases hh'
  · refine cinv_keep h ht hthr hcache hbuf (hh'.trans hh.symm) (fun _ _ => ⟨rfl, rfl⟩) ?_ ?_
    · intro e he
      have : pc'.holds = some e := holds_of_validAt he
      rw [hh'] at this; cases this
    · intro hf
      obtain ⟨e, he⟩ := holds_of_filledOk hf
      have : pc'.holds = some e := he
      rw [hh'] at this; cases this
  · intro t'
    rcases thread_upd ht hthr t' with ⟨rfl, hx⟩ | ⟨hne, hx⟩ <;> rw [hx]
    · exact hself
    · exact (h.wrA t').trans (hoth t' hne)
  · -- with the new writer inside, nobody is counted as a reader: no thread of the list is one
    intro hw t'
    obtain ⟨h1, h2⟩ := hX hw
    rw [h1, if_neg Bool.false_ne_true] at hcount
    have hnil : (s'.thr.filter fun th => Pc.reading th.pc) = [] := List.length_eq_zero_iff.1 (by omega)
    by_cases hlt : t' < s'.thr.length
    · exact Bool.eq_false_iff.2 (List.filter_eq_nil_iff.1 hnil _ (thread_mem hlt))
    · rw [thread_default (Nat.le_of_not_lt hlt)]; rfl

theorem ginv_rdlock (h : GInv cap n s) (ht : t < s.thr.length) (hpc : (s.thread t).pc = .idle)
    (hs : (if s.writer.isSome = true then Res.blocked
      else .ok ({ s with readers := s.readers + 1 }.setPc t .inRead)) = .ok s') : GInv cap n s' := by
  split at hs
  · cases hs
  rename_i hn
  have hwn : s.writer = none := Option.not_isSome_iff_eq_none.1 hn
  cases hs
  refine ginv_rw h ht rfl rfl rfl rfl (by rw [hpc]; rfl) (by rw [hpc]; rfl) rfl rfl ?_
    (fun _ _ => Iff.rfl) (fun hx => ?_) ?_
  · show _ ↔ s.writer = some t
    rw [hwn]
    constructor <;> intro hx <;> cases hx
  · have hx : s.writer.isSome = true := hx
    rw [hwn] at hx; cases hx
  · show s.readers + 1 + _ = s.readers + _
    rw [hpc, rd_idle, rd_inRead]; rfl

theorem ginv_rdunlock (h : GInv cap n s) (ht : t < s.thr.length) (hpc : (s.thread t).pc = .inRead) :
    GInv cap n ({ s with readers := s.readers - 1 }.setPc t .idle) := by
  have hwn : s.writer = none := by
    apply Option.not_isSome_iff_eq_none.1
    intro hx
    have := h.wrX hx t
    rw [hpc] at this; cases this
  have hpos : 0 < s.readers := by
    rw [h.rdN]
    exact List.length_filter_pos_iff.2 ⟨s.thread t, thread_mem ht, by rw [hpc]; rfl⟩
  refine ginv_rw h ht rfl rfl rfl rfl (by rw [hpc]; rfl) (by rw [hpc]; rfl) rfl rfl ?_
    (fun _ _ => Iff.rfl) (fun hx => ?_) ?_
  · show _ ↔ s.writer = some t
    rw [hwn]
    constructor <;> intro hx <;> cases hx
  · have hx : s.writer.isSome = true := hx
    rw [hwn] at hx; cases hx
  · show s.readers - 1 + _ = s.readers + _
    rw [hpc, rd_idle, rd_inRead, if_pos rfl, if_neg Bool.false_ne_true]
    omega

theorem ginv_wrlock (h : GInv cap n s) (ht : t < s.thr.length) (hpc : (s.thread t).pc = .idle)
    (hs : (if s.writer.isSome = true ∨ s.readers ≠ 0 then Res.blocked
      else .ok ({ s with writer := some t }.setPc t .writing)) = .ok s') : GInv cap n s' := by
  split at hs
  · cases hs
  rename_i hn
  have hwn : s.writer = none := Option.not_isSome_iff_eq_none.1 fun hx => hn (Or.inl hx)
  have hr0 : s.readers = 0 := Decidable.byContradiction fun hx => hn (Or.inr hx)
  cases hs
  refine ginv_rw h ht rfl rfl rfl rfl (by rw [hpc]; rfl) (by rw [hpc]; rfl) rfl rfl
    ⟨fun _ => rfl, fun _ => rfl⟩ ?_ (fun _ => ⟨rfl, by rw [hpc, rd_idle]; exact hr0⟩) ?_
  · intro t' hne
    show s.writer = some t' ↔ some t = some t'
    rw [hwn]
    constructor
    · intro hx; cases hx
    · intro hx; exact absurd (Option.some.inj hx).symm hne
  · show s.readers + _ = s.readers + _
    rw [hpc, rd_idle, rd_writing]

theorem ginv_wrunlock (h : GInv cap n s) (ht : t < s.thr.length) (hpc : (s.thread t).pc = .writing) :
    GInv cap n ({ s with writer := none }.setPc t .idle) := by
  have hwt : s.writer = some t := (h.wrA t).1 hpc
  refine ginv_rw h ht rfl rfl rfl rfl (by rw [hpc]; rfl) (by rw [hpc]; rfl) rfl rfl ?_ ?_
    (fun hx => by cases hx) ?_
  · constructor <;> intro hx <;> cases hx
  · intro t' hne
    show s.writer = some t' ↔ none = some t'
    rw [hwt]
    constructor
    · intro hx; exact absurd (Option.some.inj hx).symm hne
    · intro hx; cases hx
  · show s.readers + _ = s.readers + _
    rw [hpc, rd_idle, rd_writing]

theorem cinv_get {k e : Nat} {v : Bool} {c' : Cache} {f : Thread → Thread}
    (h : GInv cap n s) (ht : t < s.thr.length) (hpc : (s.thread t).pc = .locked1)
    (hg : Kdf.Model.Cache.get s.cache k = .ok (c', .entry e v))
    (hthr : s'.thr = s.thr.modify t f) (hcache : s'.cache = c') (hbuf : s'.buf = s.buf)
    (hkey : (f (s.thread t)).key = k) (hdat : (f (s.thread t)).dat = c'.dataOf e)
    (hholds : (f (s.thread t)).pc.holds = some e)
    (hval : (∃ e', Pc.validAt (f (s.thread t)).pc = some e') → v = true)
    (hfok : Pc.filledOk (f (s.thread t)).pc = false) : CInv cap s' := by
  obtain ⟨hI, hcap, hfr, hout⟩ := get_spec_of_ok ((inv_iff _).1 h.cinv) hg
  subst hcache
  have hret : s'.cache.key e = k ∧ e ∈ live s'.cache ∧ (v = true → e ∈ cached s'.cache) := by
    cases v
    · exact ⟨hout.2.1, List.mem_append_right _ hout.1, fun hv => by cases hv⟩
    · exact ⟨((hfr.cach e hout.2.2).2.1).trans hout.2.1, cached_live hout.2.2, fun _ => hout.2.2⟩
  refine ⟨(inv_iff _).2 hI, hcap.trans h.ccap, hbuf ▸ h.blen, ?_, ?_, ?_, ?_, ?_⟩
  · intro i
    have := holders_upd ht hthr i
    rw [hpc, hholds] at this
    simp only [Pc.holds, reduceCtorEq, if_false, Option.some.injEq] at this
    rw [get_refcnt h.cinv hg i, h.ref i]
    omega
  · intro t' e'
    rcases thread_upd ht hthr t' with ⟨rfl, hx⟩ | ⟨-, hx⟩ <;> rw [hx]
    · intro he
      obtain rfl := Option.some.inj (hholds.symm.trans he)
      rw [hkey, hdat]
      exact ⟨hret.2.1, hret.1, rfl⟩
    · intro he
      obtain ⟨h1, h2, h3⟩ := h.hold t' e' he
      obtain ⟨g1, g2, g3, -⟩ := hfr.refd e' h1 (refcnt_ne_zero_of_holds h he)
      exact ⟨g1, g2.trans h2, h3.trans g3.symm⟩
  · intro t' e'
    rcases thread_upd ht hthr t' with ⟨rfl, hx⟩ | ⟨-, hx⟩ <;> rw [hx]
    · intro he
      obtain rfl := Option.some.inj (hholds.symm.trans (holds_of_validAt he))
      exact hret.2.2 (hval ⟨_, he⟩)
    · intro he
      exact get_cached_stays h.cinv hg e' (h.valid t' e' he)
        (refcnt_ne_zero_of_holds h (holds_of_validAt he))
  · intro t'
    rw [hbuf]
    rcases thread_upd ht hthr t' with ⟨rfl, hx⟩ | ⟨-, hx⟩ <;> rw [hx]
    · intro hf; rw [hfok] at hf; cases hf
    · exact h.fok t'
  · intro i hi
    obtain ⟨g1, g2, g3⟩ := hfr.cach i hi
    rw [g2, g3, hbuf]; exact h.cont i g1

theorem fillBuf_keep {buf : List (Option Nat)} {d k : Nat} {ok : Bool} {d' k' : Nat}
    (h1 : buf.getD d' none = some k') (h2 : d' = d → k' = k) :
    (fillBuf buf d k ok).getD d' none = some k' := by
  unfold fillBuf
  rw [getD_modify]
  split
  · rename_i hc
    obtain rfl := hc.1
    obtain rfl := h2 rfl
    rw [h1, if_pos rfl]
    cases ok <;> rfl
  · exact h1

theorem fillBuf_ok {buf : List (Option Nat)} {d k : Nat} (hd : d < buf.length) :
    (fillBuf buf d k true).getD d none = some k := by
  unfold fillBuf
  rw [getD_modify, if_pos ⟨rfl, hd⟩, if_pos rfl]

theorem cinv_fill {e d : Nat} {ok : Bool} {pc' : Pc}
    (h : GInv cap n s) (ht : t < s.thr.length) (hholds : (s.thread t).pc.holds = some e)
    (hdat : (s.thread t).dat = some d)
    (hthr : s'.thr = s.thr.modify t (fun x => { x with pc := pc' })) (hcache : s'.cache = s.cache)
    (hbuf : s'.buf = fillBuf s.buf d (s.thread t).key ok)
    (hholds' : pc'.holds = some e) (hval' : Pc.validAt pc' = none)
    (hfok' : Pc.filledOk pc' = true → ok = true) : CInv cap s' := by
  obtain ⟨hel, hek, hed⟩ := h.hold t e hholds
  have hde : s.cache.dataOf e = some d := hed.symm.trans hdat
  have hdlt : d < s.buf.length := by
    have hS := (inv_iff _).1 h.cinv
    rw [h.blen, ← h.ccap]; exact data_lt_cap hS (live_lt hS hel) hde
  -- `d` is the buffer of `e` alone, and `e` has the key of the fill
  have hsame : ∀ i ∈ live s.cache, s.cache.dataOf i = some d → s.cache.key i = (s.thread t).key := by
    intro i hi hdi
    rw [live_buffer_inj h.cinv hi hel hdi hde]; exact hek
  refine ⟨hcache ▸ h.cinv, hcache ▸ h.ccap, ?_, ?_, ?_, ?_, ?_, ?_⟩
  · rw [hbuf]; unfold fillBuf; rw [List.length_modify]; exact h.blen
  · intro i
    have := holders_upd ht hthr i
    rw [hholds] at this
    rw [show ({ s.thread t with pc := pc' } : Thread).pc.holds = some e from hholds'] at this
    rw [hcache, h.ref i]
    omega
  · intro t' e'
    rw [hcache]
    rcases thread_upd ht hthr t' with ⟨rfl, hx⟩ | ⟨-, hx⟩ <;> rw [hx]
    · intro he
      obtain rfl := Option.some.inj (hholds'.symm.trans he)
      exact h.hold t e hholds
    · exact h.hold t' e'
  · intro t' e'
    rw [hcache]
    rcases thread_upd ht hthr t' with ⟨rfl, hx⟩ | ⟨-, hx⟩ <;> rw [hx]
    · intro he
      have he : Pc.validAt pc' = some e' := he
      rw [hval'] at he; cases he
    · exact h.valid t' e'
  · intro t'
    rw [hbuf]
    rcases thread_upd ht hthr t' with ⟨rfl, hx⟩ | ⟨-, hx⟩ <;> rw [hx]
    · intro hf
      rw [hfok' hf]
      exact ⟨d, hdat, fillBuf_ok hdlt⟩
    · intro hf
      obtain ⟨d', h1, h2⟩ := h.fok t' hf
      refine ⟨d', h1, fillBuf_keep h2 ?_⟩
      rintro rfl
      obtain ⟨e'', he''⟩ := holds_of_filledOk hf
      obtain ⟨g1, g2, g3⟩ := h.hold t' e'' he''
      rw [← g2]; exact hsame e'' g1 (g3.symm.trans h1)
  · intro i hi
    rw [hcache] at hi ⊢
    rw [hbuf]
    obtain ⟨d', h1, h2⟩ := h.cont i hi
    refine ⟨d', h1, fillBuf_keep h2 ?_⟩
    rintro rfl
    exact hsame i (cached_live hi) h1

theorem cinv_insert {e : Nat} {c' : Cache} {o : Out}
    (h : GInv cap n s) (ht : t < s.thr.length) (hpc : (s.thread t).pc = .locked2 e true)
    (hi : Kdf.Model.Cache.insert s.cache e = .ok (c', o))
    (hthr : s'.thr = s.thr.modify t (fun x => { x with pc := .hitL e })) (hcache : s'.cache = c')
    (hbuf : s'.buf = s.buf) : CInv cap s' := by
  obtain ⟨hent, hlive, hcached, hcap⟩ := insert_frame h.cinv hi
  have hInv : Inv c' := (inv_iff _).2 (insert_spec ((inv_iff _).1 h.cinv) hi).1
  subst hcache
  have hholds : (s.thread t).pc.holds = some e := by rw [hpc]; rfl
  obtain ⟨hel, hek, hed⟩ := h.hold t e hholds
  have hec : e ∈ cached s'.cache := by
    rcases live_cases hel with hx | hx
    · exact (hcached e).2 (Or.inl hx)
    · exact (hcached e).2 (Or.inr ⟨rfl, hx⟩)
  refine ⟨hInv, hcap.trans h.ccap, hbuf ▸ h.blen, ?_, ?_, ?_, ?_, ?_⟩
  · intro i
    have := holders_upd ht hthr i
    rw [hholds] at this
    rw [show ({ s.thread t with pc := .hitL e } : Thread).pc.holds = some e from rfl] at this
    rw [(hent i).1, h.ref i]
    omega
  · intro t' e'
    rw [(hent e').2.1, (hent e').2.2]
    rcases thread_upd ht hthr t' with ⟨rfl, hx⟩ | ⟨-, hx⟩ <;> rw [hx]
    · intro he
      obtain rfl : e = e' := Option.some.inj he
      exact ⟨hlive e hel, hek, hed⟩
    · intro he
      obtain ⟨h1, h2⟩ := h.hold t' e' he
      exact ⟨hlive e' h1, h2⟩
  · intro t' e'
    rcases thread_upd ht hthr t' with ⟨rfl, hx⟩ | ⟨-, hx⟩ <;> rw [hx]
    · intro he
      obtain rfl : e = e' := Option.some.inj he
      exact hec
    · intro he
      exact (hcached e').2 (Or.inl (h.valid t' e' he))
  · intro t'
    rw [hbuf]
    rcases thread_upd ht hthr t' with ⟨rfl, hx⟩ | ⟨-, hx⟩ <;> rw [hx]
    · intro hf; cases hf
    · exact h.fok t'
  · intro i hi
    rw [(hent i).2.1, (hent i).2.2, hbuf]
    rcases (hcached i).1 hi with hx | ⟨rfl, -⟩
    · exact h.cont i hx
    · -- the entry just inserted: its buffer was filled by this thread
      obtain ⟨d, h1, h2⟩ := h.fok t (by rw [hpc]; rfl)
      exact ⟨d, hed.symm.trans h1, by rw [hek]; exact h2⟩

theorem cinv_drop {e : Nat} {c' : Cache}
    (h : GInv cap n s) (ht : t < s.thr.length) (hholds : (s.thread t).pc.holds = some e)
    (hInv : Inv c') (hd : Dropped s.cache c' e)
    (hthr : s'.thr = s.thr.modify t (fun x => { x with pc := .locked1 })) (hcache : s'.cache = c')
    (hbuf : s'.buf = s.buf) : CInv cap s' := by
  subst hcache
  have hhold : ∀ i, holders s' i + (if e = i then 1 else 0) = holders s i := by
    intro i
    have := holders_upd ht hthr i
    rw [hholds] at this
    simpa only [Pc.holds, reduceCtorEq, if_false, Option.some.injEq, Nat.add_zero] using this
  refine ⟨hInv, hd.cap.trans h.ccap, hbuf ▸ h.blen, ?_, ?_, ?_, ?_, ?_⟩
  · intro i
    have h1 := hhold i
    have h2 := hd.ref i
    have h3 := h.ref i
    omega
  · intro t' e'
    rw [hd.key e', hd.data e']
    rcases thread_upd ht hthr t' with ⟨rfl, hx⟩ | ⟨hne, hx⟩ <;> rw [hx]
    · intro he; cases he
    · intro he
      obtain ⟨h1, h2⟩ := h.hold t' e' he
      refine ⟨?_, h2⟩
      rcases live_cases h1 with hm | hm
      · exact cached_live (hd.cached ▸ hm)
      · refine List.mem_append_right _ (hd.inflight e' hm ?_)
        -- `t'` holds `e'` too: the reference `t` drops is not the last one
        rintro ⟨rfl, hr1⟩
        have h4 := hhold e'
        have h5 : 0 < holders s' e' := holders_pos (t := t') (by rw [hx]; exact he)
        have h6 := h.ref e'
        rw [if_pos rfl] at h4
        omega
  · intro t' e'
    rw [hd.cached]
    rcases thread_upd ht hthr t' with ⟨rfl, hx⟩ | ⟨-, hx⟩ <;> rw [hx]
    · intro he; cases he
    · exact h.valid t' e'
  · intro t'
    rw [hbuf]
    rcases thread_upd ht hthr t' with ⟨rfl, hx⟩ | ⟨-, hx⟩ <;> rw [hx]
    · intro hf; cases hf
    · exact h.fok t'
  · intro i hi
    rw [hd.key i, hd.data i, hbuf]
    exact h.cont i (hd.cached ▸ hi)

theorem ginv_drop {e : Nat} {c' : Cache} (h : GInv cap n s) (ht : t < s.thr.length)
    (hholds : (s.thread t).pc.holds = some e) (hl : (s.thread t).pc.hasLock = true)
    (hInv : Inv c') (hd : Dropped s.cache c' e) : GInv cap n ({ s with cache := c' }.setPc t .locked1) :=
  GInv.of_cinv_reader h ht rfl rfl rfl (reading_of_holds hholds) rfl (h.bad (s.thread t) (thread_mem ht))
    (fun _ _ hx => Pc.noConfusion hx) (Or.inl ⟨rfl, hl.symm⟩) (cinv_drop h ht hholds hInv hd rfl rfl rfl)

theorem ginv_copy {e : Nat} (h : GInv cap n s) (ht : t < s.thr.length)
    (hholds : (s.thread t).pc.holds = some e) (hec : e ∈ cached s.cache)
    (hl : (s.thread t).pc.hasLock = false)
    (hs : doCopy s t e = .ok s') : GInv cap n s' := by
  unfold doCopy at hs
  split at hs
  · cases hs
  · rename_i d hd
    injection hs with hs; subst hs
    obtain ⟨d', h1, h2⟩ := h.cont e hec
    obtain ⟨_, hek, hed⟩ := h.hold t e hholds
    have hdd : d' = d := Option.some.inj (h1.symm.trans (hed.symm.trans hd))
    subst hdd
    have hgood : s.buf.getD d' none = some (s.thread t).key := by rw [h2, hek]
    have hb : (s.thread t).bad = false := h.bad _ (thread_mem ht)
    refine GInv.of_cinv_reader h ht rfl rfl rfl (reading_of_holds hholds) rfl ?_ (fun e tmp hx => Pc.noConfusion hx)
      (Or.inl ⟨rfl, by rw [hl]; rfl⟩) ?_
    · show ((s.thread t).bad || !decide (s.buf.getD d' none = some (s.thread t).key)) = false
      rw [hb, hgood]; simp
    · refine cinv_keep h ht rfl rfl rfl (by rw [hholds]; rfl) (fun _ _ => ⟨rfl, rfl⟩) ?_
        (fun hf => by cases hf)
      intro e' he'
      exact Option.some.inj (he' : some e = some e') ▸ hec

theorem ginv_fillstep {e : Nat} {ok : Bool} {pc' : Pc} (h : GInv cap n s)
    (ht : t < s.thr.length) (hholds : (s.thread t).pc.holds = some e)
    (hs : doFill s t ok pc' = .ok s')
    (hrd' : Pc.reading pc' = true) (hholds' : pc'.holds = some e) (hval' : Pc.validAt pc' = none)
    (hfok' : Pc.filledOk pc' = true → ok = true) (hl : pc'.hasLock = (s.thread t).pc.hasLock)
    (hnp : Pc.isPutU pc' = false) : GInv cap n s' := by
  unfold doFill at hs
  split at hs
  · cases hs
  · rename_i d hd
    injection hs with hs; subst hs
    refine GInv.of_cinv_reader h ht rfl rfl rfl (reading_of_holds hholds) hrd' (h.bad (s.thread t) (thread_mem ht)) ?_
      (Or.inl ⟨rfl, hl⟩) ?_
    · intro e tmp hx
      have : pc' = .putU e tmp := hx
      rw [this] at hnp; cases hnp
    · exact cinv_fill h ht hholds hd rfl rfl rfl hholds' hval' hfok'

theorem init_thread (cap n t : Nat) : (init cap n).thread t = ⟨.idle, 0, none, false⟩ :=
  getD_replicate_self _ n t

theorem ginv_init (cap n : Nat) (hc : 0 < cap) : GInv cap n (init cap n) := by
  refine ⟨?_, (inv_iff _).2 (invS_flush cap hc True), rfl, ?_, ?_, ?_, ?_, ?_, ?_, ?_, ?_, ?_, ?_, ?_, ?_⟩
  · exact List.length_replicate ..
  · exact List.length_replicate ..
  · intro i
    show ((flush cap).ent i).refcnt = _
    rw [flush_refcnt]
    exact (count_replicate_false _ _ (by simp [Pc.holds]) n).symm
  · intro t
    rw [init_thread]
    constructor <;> intro hx <;> cases hx
  · intro t
    rw [init_thread]
    constructor <;> intro hx <;> cases hx
  · intro hx; cases hx
  · exact (count_replicate_false _ _ rfl n).symm
  · intro t e
    rw [init_thread]
    intro hx; cases hx
  · intro t e
    rw [init_thread]
    intro hx; cases hx
  · intro t
    rw [init_thread]
    intro hx; cases hx
  · intro i hi
    cases hi
  · intro th hth
    rw [List.eq_of_mem_replicate hth]
  · intro t e tmp
    rw [init_thread]
    intro hx; cases hx

theorem ginv_step {ev : Ev} (h : GInv cap n s)
    (hs : step fixed s t ev = .ok s') : GInv cap n s' := by
  obtain ⟨ht, pc, r, hpc, ha, hr⟩ := step_alt hs nofun
  clear hs
  have hb : (s.thread t).bad = false := h.bad _ (thread_mem ht)
  have hfx : fixed.lockedPut = true := rfl
  cases ha
  case rdlock => exact ginv_rdlock h ht hpc hr
  case wrlock => exact ginv_wrlock h ht hpc hr
  case wrunlock =>
    cases hr
    exact ginv_wrunlock h ht hpc
  case rdunlock =>
    cases hr
    exact ginv_rdunlock h ht hpc
  case lockRead | lockFill =>
    exact ginv_acquire h ht hr (by rw [hpc]; exact ⟨rfl, rfl, rfl, rfl, rfl, rfl⟩) rfl
  case unlock1 | unlockHit | unlockMiss | unlockFill =>
    exact ginv_release h ht hr (by rw [hpc]; exact ⟨rfl, rfl, rfl, rfl, rfl, rfl⟩) (by rw [hpc]; rfl) rfl
  case get k =>
    have hrd : Pc.reading (s.thread t).pc = true := by rw [hpc]; rfl
    split at hr
    · cases hr
    · -- busy
      rename_i c' hg
      cases hr
      obtain rfl : c' = s.cache := get_busy_eq hg
      refine GInv.of_cinv_reader h ht rfl rfl rfl hrd hrd hb (h.noPutU t) (Or.inl ⟨rfl, rfl⟩) ?_
      refine cinv_keep h ht rfl rfl rfl rfl ?_ (h.valid t) id
      intro e he
      have he : (s.thread t).pc.holds = some e := he
      rw [hpc] at he; cases he
    · -- hit
      rename_i c' e hg
      cases hr
      exact GInv.of_cinv_reader h ht rfl rfl rfl hrd rfl hb (fun _ _ hx => Pc.noConfusion hx)
        (Or.inl ⟨rfl, by rw [hpc]; rfl⟩) (cinv_get h ht hpc hg rfl rfl rfl rfl rfl rfl (fun _ => rfl) rfl)
    · -- miss
      rename_i c' e hg
      cases hr
      exact GInv.of_cinv_reader h ht rfl rfl rfl hrd rfl hb (fun _ _ hx => Pc.noConfusion hx)
        (Or.inl ⟨rfl, by rw [hpc]; rfl⟩)
        (cinv_get h ht hpc hg rfl rfl rfl rfl rfl rfl (fun ⟨_, he'⟩ => by cases he') rfl)
    · cases hr
  case fillLocked e ok | fillEnd e ok =>
    exact ginv_fillstep h ht (by rw [hpc]; rfl) hr rfl rfl rfl (by cases ok <;> simp [Pc.filledOk])
      (by rw [hpc]; rfl) rfl
  case copyEarly e =>
    split at hr
    · rename_i hv
      have hholds : (s.thread t).pc.holds = some e := by rw [hpc]; rfl
      have hel := (h.hold t e hholds).1
      have hec : e ∈ cached s.cache := by
        rcases live_cases hel with hx | hx
        · exact hx
        · exact absurd hv (h.cinv.inflight_invalid e hx)
      exact ginv_copy h ht hholds hec (by rw [hpc]; rfl) hr
    · cases hr
  case lockFilled e ok =>
    exact ginv_acquire h ht hr (by rw [hpc]; cases ok <;> exact ⟨rfl, rfl, rfl, rfl, rfl, rfl⟩) rfl
  case insert e =>
    split at hr
    · cases hr
    · rename_i c' o hi
      injection hr with hr; subst hr
      exact GInv.of_cinv_reader h ht rfl rfl rfl (by rw [hpc]; rfl) rfl hb (fun e tmp hx => Pc.noConfusion hx)
        (Or.inl ⟨rfl, by rw [hpc]; rfl⟩) (cinv_insert h ht hpc hi rfl rfl rfl)
  case discard e =>
    split at hr
    · cases hr
    · rename_i c' o hd
      cases hr
      exact ginv_drop h ht (by rw [hpc]; rfl) (by rw [hpc]; rfl)
        ((inv_iff _).2 (discard_spec ((inv_iff _).1 h.cinv) hd).1) (discard_frame hd)
  case copy e =>
    have hholds : (s.thread t).pc.holds = some e := by rw [hpc]; rfl
    exact ginv_copy h ht hholds (h.valid t e (by rw [hpc]; rfl)) (by rw [hpc]; rfl) hr
  case lockPut e =>
    rw [if_pos hfx] at hr
    exact ginv_acquire h ht hr (by rw [hpc]; exact ⟨rfl, rfl, rfl, rfl, rfl, rfl⟩) rfl
  case put e =>
    split at hr
    · cases hr
    · rename_i c' o hp
      cases hr
      -- the entry is cached, so the protocol condition of `put_spec` on in-flight entries is void
      have hnF : e ∉ s.cache.F := cached_not_F h.cinv (h.valid t e (by rw [hpc]; rfl))
      exact ginv_drop h ht (by rw [hpc]; rfl) (by rw [hpc]; rfl)
        ((inv_iff _).2 (put_spec ((inv_iff _).1 h.cinv) hp (fun _ heF => absurd heF hnF)).1) (put_frame hp)
  case load e =>
    rw [if_pos hfx] at hr; cases hr
  case store e tmp =>
    exact absurd hpc (h.noPutU t e tmp)

theorem reach_ginv (hc : 0 < cap) (h : Reach fixed cap n s) :
    GInv cap n s := by
  induction h with
  | init => exact ginv_init cap n hc
  | step _ hs ih => exact ginv_step ih hs

end Kdf.Lemmas.Conc
