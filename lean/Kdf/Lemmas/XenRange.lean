import Kdf.Lemmas.XenDefs
/-!
# C19 — arithmetic of one run-length range, and of the builder's cursor read as a range
-/
namespace Kdf.Lemmas.Xen
open Kdf.Model.Xen

variable {r c : Range}

theorem W_eq : (W : Nat) = 18446744073709551616 := rfl

theorem wrap_of_lt (x : Int) (h0 : 0 ≤ x) (h1 : x < (W : Int)) : wrap x = x.toNat := by
  unfold wrap
  rw [Int.emod_eq_of_lt h0 h1]

/-- range `r` says: frame `q` is page `i` (the clause of `Covers` for one range) -/
def At (r : Range) (q i : Nat) : Prop := lo r ≤ (q : Int) ∧ (q : Int) ≤ hi r ∧ ixAt r q = (i : Int)

theorem lo_of_nonneg (h : 0 ≤ r.len) : lo r = (r.pfn : Int) - r.len + 1 := if_pos h
theorem hi_of_nonneg (h : 0 ≤ r.len) : hi r = r.pfn := if_pos h
theorem lo_of_neg (h : r.len < 0) : lo r = r.pfn := if_neg (Int.not_le.mpr h)
theorem hi_of_neg (h : r.len < 0) : hi r = (r.pfn : Int) - r.len - 1 := if_neg (Int.not_le.mpr h)

theorem at_of_nonneg (h : 0 ≤ r.len) (q i : Nat) :
    At r q i ↔ (r.pfn : Int) - r.len + 1 ≤ q ∧ (q : Int) ≤ r.pfn ∧ (r.idx : Int) + q - r.pfn = i := by
  unfold At ixAt
  rw [lo_of_nonneg h, hi_of_nonneg h, if_pos h]

theorem at_of_neg (h : r.len < 0) (q i : Nat) :
    At r q i ↔ (r.pfn : Int) ≤ q ∧ (q : Int) ≤ r.pfn - r.len - 1 ∧ (r.idx : Int) + r.pfn - q = i := by
  unfold At ixAt
  rw [lo_of_neg h, hi_of_neg h, if_neg (Int.not_le.mpr h)]

theorem lo_le_pfn (h : r.len ≠ 0) : lo r ≤ (r.pfn : Int) := by
  unfold lo; split <;> omega

theorem pfn_le_hi (r : Range) : (r.pfn : Int) ≤ hi r := by
  unfold hi; split <;> omega

theorem lo_le_hi (h : r.len ≠ 0) : lo r ≤ hi r :=
  Int.le_trans (lo_le_pfn h) (pfn_le_hi r)

theorem ROk.len_ne (h : ROk r) : r.len ≠ 0 := by
  have := h.1; omega

theorem ROk.ixAt_bounds (h : ROk r) {q : Nat} (h1 : lo r ≤ (q : Int)) (h2 : (q : Int) ≤ hi r) :
    0 ≤ ixAt r q ∧ ixAt r q < (W : Int) := by
  obtain ⟨-, -, -, hidx, hix⟩ := h
  have hW : ((W - 1 : Nat) : Int) = (W : Int) - 1 := by rw [W_eq]; rfl
  unfold ixAt
  by_cases hl : 0 ≤ r.len
  · rw [lo_of_nonneg hl] at h1; rw [hi_of_nonneg hl] at h2
    rw [if_pos hl] at hidx ⊢
    omega
  · rw [lo_of_neg (Int.not_le.mp hl)] at h1; rw [hi_of_neg (Int.not_le.mp hl)] at h2
    rw [if_neg hl] at hidx ⊢
    omega

theorem ROk.at_toNat (h : ROk r) {q : Nat} (h1 : lo r ≤ (q : Int)) (h2 : (q : Int) ≤ hi r) :
    At r q (ixAt r q).toNat :=
  ⟨h1, h2, (Int.toNat_of_nonneg (h.ixAt_bounds h1 h2).1).symm⟩

theorem common_frame {a b : Range} (ha : 0 ≤ lo a) (hb : 0 ≤ lo b) (haa : lo a ≤ hi a) (hbb : lo b ≤ hi b)
    (h : ¬ (hi a < lo b ∨ hi b < lo a)) :
    ∃ q : Nat, (lo a ≤ (q : Int) ∧ (q : Int) ≤ hi a) ∧ lo b ≤ (q : Int) ∧ (q : Int) ≤ hi b := by
  by_cases hc : lo a ≤ lo b
  · exact ⟨(lo b).toNat, by omega⟩
  · exact ⟨(lo a).toNat, by omega⟩

/-- The range `pfn2idx_map_addrange` stores for cursor `c`: `cur->idx` is one past the page
index of the cursor's last frame. -/
def pend (c : Range) : Range := ⟨c.pfn, c.idx - 1, c.len⟩

theorem at_pend (h : 1 ≤ c.idx) (q i : Nat) : At (pend c) q i ↔ At c q (i + 1) := by
  have e : ixAt (pend c) q = ixAt c q - 1 := by
    simp only [ixAt, pend]; split <;> omega
  unfold At
  rw [e]
  exact and_congr_right fun _ => and_congr_right fun _ => by omega

theorem at_empty (h : c.len = 0) (q i : Nat) : ¬ At c q i := by
  rw [at_of_nonneg (by omega)]; omega

theorem at_single (h : c.len = 1 ∨ c.len = -1) (q i : Nat) : At c q i ↔ c.pfn = q ∧ c.idx = i := by
  rcases h with h | h
  · rw [at_of_nonneg (by omega)]; omega
  · rw [at_of_neg (by omega)]; omega

theorem at_start (pfn p j q i : Nat) :
    At ⟨p, j + 1, 1⟩ q (i + 1) ↔ At ⟨pfn, j, 0⟩ q (i + 1) ∨ (q = p ∧ i = j) := by
  rw [at_single (Or.inl rfl), or_iff_right (at_empty rfl q _)]
  show p = q ∧ j + 1 = i + 1 ↔ _
  omega

theorem at_push_up (h : 0 < c.len) (q i : Nat) :
    At ⟨c.pfn + 1, c.idx + 1, c.len + 1⟩ q (i + 1) ↔ At c q (i + 1) ∨ (q = c.pfn + 1 ∧ i = c.idx) := by
  rw [at_of_nonneg (r := ⟨_, _, _⟩) (show 0 ≤ c.len + 1 by omega), at_of_nonneg (Int.le_of_lt h)]
  simp only; omega

theorem at_push_down (h : c.len < 0) (hp : 1 ≤ c.pfn) (q i : Nat) :
    At ⟨c.pfn - 1, c.idx + 1, c.len - 1⟩ q (i + 1) ↔ At c q (i + 1) ∨ (q = c.pfn - 1 ∧ i = c.idx) := by
  rw [at_of_neg (r := ⟨_, _, _⟩) (show c.len - 1 < 0 by omega), at_of_neg h]
  simp only; omega

theorem at_turn_down (h : c.len = 1) (hp : 1 ≤ c.pfn) (q i : Nat) :
    At ⟨c.pfn - 1, c.idx + 1, -2⟩ q (i + 1) ↔ At c q (i + 1) ∨ (q = c.pfn - 1 ∧ i = c.idx) := by
  -- a single frame is also a descending run of one
  have e : At c q (i + 1) ↔ At ⟨c.pfn, c.idx, -1⟩ q (i + 1) := by
    rw [at_single (Or.inl h), at_single (c := ⟨_, _, _⟩) (Or.inr rfl)]
  rw [e]
  exact at_push_down (c := ⟨c.pfn, c.idx, -1⟩) (show (-1 : Int) < 0 by decide) hp q i

end Kdf.Lemmas.Xen
