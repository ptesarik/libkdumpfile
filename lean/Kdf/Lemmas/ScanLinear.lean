import Kdf.Model.Scan
import Kdf.Lemmas.Basic
/-!
# Lemmas for C08: `highest_linear` is sound for images whose mapped runs are uniformly linear or not

`highest_linear` (step.c) decides the end of a linear region (x86-64 kernel text and direct map,
riscv64 and arm linear maps): it checks the virtual-to-physical offset only at the FIRST page of every
contiguous mapped run and then skips to the end of the run.  This is sound exactly for images "laid out
the way the supported kernels lay out memory": a contiguous mapped run is linear as a whole or not at
all (`RunUniform`).  The invariant `highestLinear_inv` (whose instance at the first iteration is
`Kdf.Props.C08.highest_linear_sound`) is stated against the specifications of the two scanners it calls
(`LMOk`, `LUOk`), which `Kdf.Lemmas.ScanX64` proves for the x86-64 paging forms.
-/
namespace Kdf.Lemmas.ScanLinear
open Kdf.Model.Pgt Kdf.Model.Scan

/-- `tr x` = the hardware walk of `x` (status only matters here) -/
abbrev Tr := Nat → Except XStatus Step

def Mapped (tr : Tr) (x : Nat) : Prop := ∃ s, tr x = .ok s

/-- specification of `lowest_mapped` from `addr` (page-aligned start `lo`) up to `limit`.
The OK case includes that the answer is page aligned, `andNot a pm = a` (`pm` = page mask):
`highest_linear` restarts `lowest_unmapped` from the answer `a`, whose scan starts at `andNot a pm`;
without alignment an unmapped address of `[andNot a pm, a)` could be reported as the end of the run
that starts at `a` (then `*addr` would move below the checked address, for `a2 = 0` even wrap to
`W - 1`) and `highest_linear_sound` would be false. -/
def LMOk (tr : Tr) (pm lo limit : Nat) : Res → Prop
  | .done .ok a _ => lo ≤ a ∧ a ≤ limit ∧ andNot a pm = a ∧ Mapped tr a ∧ ∀ x, lo ≤ x → x < a → ¬ Mapped tr x
  | .done .notpresent _ _ => ∀ x, lo ≤ x → x ≤ limit → ¬ Mapped tr x
  | .done _ _ _ => True
  | .fuel => False
  | .undef => False

def LUOk (tr : Tr) (lo limit : Nat) : Res → Prop
  | .done .ok a _ => lo ≤ a ∧ a ≤ limit ∧ ¬ Mapped tr a ∧ ∀ x, lo ≤ x → x < a → Mapped tr x
  | .done .notpresent _ _ => ∀ x, lo ≤ x → x ≤ limit → Mapped tr x
  | .done _ _ _ => True
  | .fuel => False
  | .undef => False

/-- `x` translates (through the system under construction) with the required offset -/
def LinAt (conv : Nat → XStatus × Nat) (off x : Nat) : Prop :=
  ∃ pa, conv x = (.ok, pa) ∧ (pa + W - x) % W = off

/-- kernel-layout hypothesis: a contiguous mapped run whose first page is linear is linear throughout -/
def RunUniform (tr : Tr) (conv : Nat → XStatus × Nat) (off : Nat) : Prop :=
  ∀ a b, a ≤ b → (∀ x, a ≤ x → x ≤ b → Mapped tr x) → LinAt conv off a → ∀ x, a ≤ x → x ≤ b → LinAt conv off x

/-- first half of the invariant: everything up to `a` (and up to `limit`) is checked -/
def LinUpTo (tr : Tr) (conv : Nat → XStatus × Nat) (off lo0 limit a : Nat) : Prop :=
  ∀ x, lo0 ≤ x → x ≤ a → x ≤ limit → Mapped tr x → LinAt conv off x

/-- second half: everything strictly below the scan frontier `f` is checked -/
def LinBelow (tr : Tr) (conv : Nat → XStatus × Nat) (off lo0 limit f : Nat) : Prop :=
  ∀ x, lo0 ≤ x → x < f → x ≤ limit → Mapped tr x → LinAt conv off x

/-- generalized loop invariant of `highest_linear`: if the status so far is OK, everything up to `*addr`
is checked; everything below the start of the next `lowest_mapped` scan is checked.

The scanner specifications `hlm`/`hlu` are demanded ONLY for the start addresses `a < W` whose
page-aligned start `andNot a pm` lies in `[lo0, limit]` (`lo0` = start of the first scan): these are the
only starts that matter ("phase A").  Every later start lies above the previous answer, because
`lowest_mapped` answers page-aligned addresses (`andNot na pm = na`) and `hmono` lifts `na ≤ na2` to
`na ≤ andNot na2 pm`.  Once `lowest_unmapped` answers `notpresent` its `*addr` is arbitrary (beyond
`limit`, or wrapped to a small value, so the next scans may start below `lo0`, even in the other
canonical half): at that point everything in `[lo0, limit]` is checked already, so the conclusion —
which is restricted to `x ≤ limit` — holds for EVERY result of the remaining iterations ("phase B"):
no induction hypothesis and no scanner specification is used there. -/
theorem highestLinear_inv (launch : Nat → Except XStatus Step) (sf : StepFn) (pf : PagingForm)
    (tr : Tr) (conv : Nat → XStatus × Nat) (limit off : Nat) (pm : Nat) (lo0 : Nat)
    (hlim : limit < W)
    (hmono : ∀ a b, andNot a pm = a → a ≤ b → b ≤ limit → a ≤ andNot b pm)
    (hlm : ∀ a, a < W → lo0 ≤ andNot a pm → andNot a pm ≤ limit →
      LMOk tr pm (andNot a pm) limit (lowestMapped launch sf pf a limit))
    (hlu : ∀ a, a < W → lo0 ≤ andNot a pm → andNot a pm ≤ limit →
      LUOk tr (andNot a pm) limit (lowestUnmapped launch sf pf a limit))
    (hrun : RunUniform tr conv off) :
    ∀ (fuel addr nextaddr : Nat) (ret : XStatus) (h : Nat),
      nextaddr < W → lo0 ≤ andNot nextaddr pm → andNot nextaddr pm ≤ limit →
      (ret = .ok → LinUpTo tr conv off lo0 limit addr) →
      LinBelow tr conv off lo0 limit (andNot nextaddr pm) →
      highestLinear launch sf pf conv limit off fuel addr nextaddr ret = .done .ok h →
      LinUpTo tr conv off lo0 limit h := by
  intro fuel
  induction fuel with
  | zero => intro addr nextaddr ret h _ _ _ _ _ hres; simp [highestLinear] at hres
  | succ n ih =>
    intro addr nextaddr ret h hnW hnlo hnhi hP hF hres
    have hm := hlm nextaddr hnW hnlo hnhi
    unfold highestLinear at hres
    split at hres
    · cases hres
    · cases hres
    · rename_i na s heq
      rw [heq] at hm
      obtain ⟨hlo, hnal, hal, hmna, hunm⟩ := hm
      split at hres
      · rename_i pa hconv
        split at hres
        · -- break
          cases hres
          exact hP rfl
        · rename_i hoff
          have hoff' : (pa + W - na) % W = off := Classical.not_not.mp hoff
          have hlin : LinAt conv off na := ⟨pa, hconv, hoff'⟩
          have hu := hlu na (Nat.lt_of_le_of_lt hnal hlim) (by rw [hal]; exact Nat.le_trans hnlo hlo)
            (by rw [hal]; exact hnal)
          rw [hal] at hu
          split at hres
          · cases hres
          · cases hres
          · rename_i st na2 s2 heq2
            rw [heq2] at hu
            split at hres
            · rename_i hst
              cases hres
              exact absurd rfl hst.1
            · rename_i hst
              -- everything up to `na2 - 1` (OK) resp. up to `limit` (notpresent) is checked
              have key : ∀ b, (∀ x, na ≤ x → x ≤ b → Mapped tr x) → LinUpTo tr conv off lo0 limit b := by
                intro b hb x hx0 hxb hxl hxm
                by_cases h1 : x < andNot nextaddr pm
                · exact hF x hx0 h1 hxl hxm
                · by_cases h2 : x < na
                  · exact absurd hxm (hunm x (Nat.le_of_not_lt h1) h2)
                  · exact hrun na b (Nat.le_trans (Nat.le_of_not_lt h2) hxb) hb hlin x (Nat.le_of_not_lt h2) hxb
              have hA : andNot na2 pm ≤ na2 := Nat.and_le_left
              have hst' : st = .ok ∨ st = .notpresent :=
                if h : st = .ok then Or.inl h
                else Or.inr (Decidable.of_not_not fun h' => hst ⟨h, h'⟩)
              rcases hst' with hs | hs
              · -- phase A continues: the next scan starts in `[na, limit] ⊆ [lo0, limit]`
                subst hs
                obtain ⟨h1, h2, h3, h4⟩ := hu
                have hlt : na < na2 := Nat.lt_of_le_of_ne h1 fun e => h3 (e ▸ hmna)
                have h0 : 0 < na2 := Nat.lt_of_le_of_lt (Nat.zero_le _) hlt
                have hk := key (na2 - 1) (fun x hx1 hx2 => h4 x hx1 (Nat.lt_of_le_sub_one h0 hx2))
                have hna2W : na2 < W := Nat.lt_of_le_of_lt h2 hlim
                -- `*addr = na2 - 1` as the C code computes it
                have hle : (na2 + W - 1) % W ≤ na2 - 1 := Nat.le_of_eq (add_sub_mod h0 hna2W)
                have hge : na ≤ andNot na2 pm := hmono na na2 hal (Nat.le_of_lt hlt) h2
                refine ih _ _ _ _ hna2W (Nat.le_trans (Nat.le_trans hnlo hlo) hge)
                  (Nat.le_trans hA h2) ?_ ?_ hres
                · intro _ x hx0 hxa hxl hxm
                  exact hk x hx0 (Nat.le_trans hxa hle) hxl hxm
                · intro x hx0 hxa hxl hxm
                  exact hk x hx0 (Nat.le_sub_one_of_lt (Nat.lt_of_lt_of_le hxa hA)) hxl hxm
              · -- phase B: all of `[lo0, limit]` is checked, whatever the remaining iterations do
                subst hs
                intro x hx0 _ hxl hxm
                exact key limit (fun y hy1 hy2 => hu y hy1 hy2) x hx0 hxl hxl hxm
      · rename_i e x hne hconv
        cases hres
        exact (hne rfl).elim
    · rename_i st a s hne heq
      injection hres with h1 h2
      subst h2
      by_cases hnp : st = .notpresent
      · rw [if_pos hnp] at h1
        exact hP h1
      · rw [if_neg hnp] at h1
        exact (hne h1).elim

end Kdf.Lemmas.ScanLinear
