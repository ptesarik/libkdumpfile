/-! General facts used by several lemma files: differences modulo `n` (stated for any modulus, so
that `W` stays an atom for `omega`) and two list facts. -/
namespace Kdf.Lemmas

theorem add_sub_mod_of_sub_lt {n a b : Nat} (hb : b ≤ a) (h : a - b < n) : (a + n - b) % n = a - b := by
  rw [Nat.add_comm, Nat.add_sub_assoc hb, Nat.add_mod_left, Nat.mod_eq_of_lt h]

theorem add_sub_mod {n a b : Nat} (hb : b ≤ a) (ha : a < n) : (a + n - b) % n = a - b :=
  add_sub_mod_of_sub_lt hb (Nat.lt_of_le_of_lt (Nat.sub_le a b) ha)

theorem add_sub_pred_mod {n a b : Nat} (hb : b < a) (ha : a < n) :
    (a + n - b + n - 1) % n = a - b - 1 := by
  have e : a + n - b + n - 1 = (a - b - 1) + n + n := by omega
  rw [e, Nat.add_mod_right, Nat.add_mod_right, Nat.mod_eq_of_lt (by omega)]

theorem neg_neg_mod {n a : Nat} (h : a < n) : (n - (n - a) % n) % n = a := by
  by_cases h0 : a = 0
  · subst h0; rw [Nat.sub_zero, Nat.mod_self, Nat.sub_zero, Nat.mod_self]
  · rw [Nat.mod_eq_of_lt (by omega : n - a < n), Nat.sub_sub_self (Nat.le_of_lt h), Nat.mod_eq_of_lt h]

/-- Adding the offset `-a` of a linear method. -/
theorem add_neg_mod {n a v : Nat} (h : a ≤ v) (hv : v < n) : (v + (n - a) % n) % n = v - a := by
  by_cases h0 : a = 0
  · subst h0; rw [Nat.sub_zero, Nat.mod_self, Nat.add_zero, Nat.sub_zero, Nat.mod_eq_of_lt hv]
  · have e : v + (n - a) = (v - a) + n := by omega
    rw [Nat.mod_eq_of_lt (by omega : n - a < n), e, Nat.add_mod_right, Nat.mod_eq_of_lt (by omega)]

theorem getElem?_mid {α} (A : List α) (x : α) (B : List α) (i : Nat) (h : i = A.length) :
    (A ++ x :: B)[i]? = some x := by
  subst h; simp

theorem length_eq_two {α} {A : List α} (h : A.length = 2) : ∃ x y, A = [x, y] := by
  match A, h with
  | [x, y], _ => exact ⟨x, y, rfl⟩

end Kdf.Lemmas
