import Kdf.Lemmas.ScanUp
import Kdf.Lemmas.ScanDown

/-!
# Lemmas for C08: the recursive page-table scanners (`Kdf.Model.Scan`) over the C02 walk model

For the x86-64 paging forms (4- and 5-level) and arbitrary table content, each scanner returns the
least / greatest mapped / unmapped address of the scanned interval, where "mapped" is the C02 walk
(`Kdf.Model.Pgt.walk`, proved equal to the architectural walk in `Kdf.Props.C02`):
`lowestMapped_post`, `lowestUnmapped_post`, `highestMapped_post`.

All three need `hmemok : ∀ as a sz, mem as a sz ≠ .error .ok`.  Without it they are false for a
memory whose read fails *with status OK* (`XStatus.ok` inside `Except.error`, a value the type `Mem`
allows but no real read callback produces): with `mem := fun _ _ _ => .error .ok`,
`pf := ⟨.x86_64, [12,9,9,9,9]⟩`, root `⟨0x1000, 0⟩`,
  `lowestMapped … 0x1000 0x5000 = .done .ok 0x1000 _`, `lowestUnmapped … = .done .ok 0x1000 _`,
  `highestMapped … 0x5000 0x1000 = .done .ok 0x5fff _`, but `walk … = .error .ok`
(the scanners return the failing status unchanged, and that status happens to be OK).
This is an artefact of the model's `Mem` type, not a defect of the C code.
-/
namespace Kdf.Lemmas.Scan

open Kdf.Model.Pgt Kdf.Model.Scan Kdf.Model.PgtArch Kdf.Spec.ArchWalk Kdf.Lemmas.Pgt

/-- the x86-64 paging forms set up by `init_pgt_meth` of x86_64.c -/
def X64Form (pf : PagingForm) : Prop :=
  pf.fmt = .x86_64 ∧ (pf.fieldsz = [12, 9, 9, 9, 9] ∨ pf.fieldsz = [12, 9, 9, 9, 9, 9])

/-- the scanned interval `[lo, hi]` lies in one canonical half (every address in it passes
`step_check_saddr`) -/
def SameHalf (pf : PagingForm) (lo hi : Nat) : Prop :=
  lo ≤ hi ∧ hi < W ∧ (hi < 2^(vaddrBits pf - 1) ∨ W - 2^(vaddrBits pf - 1) ≤ lo)

theorem xform_xf {pf : PagingForm} (h : X64Form pf) : XF pf := h

theorem xf_vbits {pf : PagingForm} (h : XF pf) : vaddrBits pf = 48 ∨ vaddrBits pf = 57 := by
  rcases h.2 with h | h <;> simp [vaddrBits, h]

section
variable {pf : PagingForm} (hpf : XF pf) {lo hi : Nat} (hh : SameHalf pf lo hi)
include hpf hh

theorem canon_of_half {x : Nat} (h1 : lo ≤ x) (h2 : x ≤ hi) :
    canonical .signed (spanBits pf.fieldsz pf.fieldsz.length) x = true := by
  obtain ⟨_, hhi, hhalf⟩ := hh
  rw [← vaddrBits_eq]
  rcases xf_vbits hpf with hv | hv
  all_goals
    rw [hv] at hhalf ⊢
    simp only [canonical, W, Nat.reducePow, Nat.reduceSub, Nat.reduceDiv] at hhi hhalf ⊢
    split <;> simp only [decide_eq_true_eq] <;> omega

/-- a canonical half lies inside one span of the root table, so at top level a scan that runs out
of the table has covered the whole interval -/
theorem sameHalf_block :
    lo / 2^(spanBits pf.fieldsz pf.fieldsz.length) =
      hi / 2^(spanBits pf.fieldsz pf.fieldsz.length) := by
  obtain ⟨_, hhi, hhalf⟩ := hh
  rw [← vaddrBits_eq]
  rcases xf_vbits hpf with hv | hv
  all_goals
    rw [hv] at hhalf ⊢
    simp only [W, Nat.reducePow, Nat.reduceSub] at hhi hhalf ⊢
    omega

theorem top_lt :
    hi < (lo / 2^(spanBits pf.fieldsz pf.fieldsz.length) + 1) *
      2^(spanBits pf.fieldsz pf.fieldsz.length) := by
  rw [sameHalf_block hpf hh]
  exact ((div_range (Nat.two_pow_pos _)).1 rfl).2

theorem top_le :
    hi / 2^(spanBits pf.fieldsz pf.fieldsz.length) * 2^(spanBits pf.fieldsz pf.fieldsz.length) ≤
      lo := by
  rw [← sameHalf_block hpf hh]
  exact ((div_range (Nat.two_pow_pos _)).1 rfl).1

end

theorem addr_lt_W {addr limit : Nat} (h1 : clearLow addr 12 ≤ limit) (h2 : limit < W) : addr < W := by
  simp only [clearLow, W] at *
  omega

theorem andNot_eq (addr : Nat) (h : addr < W) : andNot addr 4095 = clearLow addr 12 :=
  and_not_mask addr 12 h (by decide)

theorem pageMask_eq {pf : PagingForm} (h : XF pf) : pageMask pf = some 4095 := by
  simp [pageMask, xf_tableSize0 h]

theorem or_4095 (addr : Nat) : (addr ||| 4095) % 4096 = 4095 := by
  have := or_mask addr 12
  simp only [Nat.reducePow, Nat.reduceSub] at this
  rw [this]; omega

/-- the C02 walk of `x`, reduced to the target address -/
def walkTarget (c : ScanCfg) : Sem := fun x => (walk extra c.mem c.meth x).map (·.base)

section
variable (c : ScanCfg) (hpf : XF c.pf)
include hpf

theorem wk_nodata (hroot : c.root.as = NOADDR) (x : Nat) :
    walkTarget c x = .error .nodata := by
  unfold walkTarget walk
  rw [firstStep_nodata c hpf hroot]
  rfl

variable (hmask : c.pteMask < W)
include hmask

theorem wk_eq_G (hroot : c.root.as ≠ NOADDR) {lo hi x : Nat} (hh : SameHalf c.pf lo hi) (h1 : lo ≤ x)
    (h2 : x ≤ hi) : walkTarget c x = rootDescent c x := by
  have hc := canon_of_half hpf hh h1 h2
  have := walk_pgt_form c.mem c.t c.root c.pteMask c.pf x (fun h => by rw [hpf.1] at h; cases h)
    (xf_arch hpf) hmask decodeX86_64 .signed 8 (by rw [formatSpec, hpf.1])
  rw [walkTarget, ScanCfg.meth, this]
  simp only [specXlat, formatSpec, hpf.1, archWalk, hroot, if_false, hc, Bool.not_true,
    Bool.false_eq_true]
  rfl

variable (hmemok : ∀ as a sz, c.mem as a sz ≠ .error .ok)
include hmemok

/-- `lowest_mapped`: the answer is the least mapped page of `[addr & ~0xfff, limit]`; a failing table
read is reported at the first address it affects. -/
theorem lowestMapped_post (addr limit : Nat)
    (hh : SameHalf c.pf (clearLow addr 12) limit) :
    ∃ T, limit < (clearLow addr 12 / T + 1) * T ∧
      Post (NotPresent (walkTarget c)) (StopAt 0 (walkTarget c)) limit T (clearLow addr 12)
        (lowestMapped (firstStep c.meth) c.sf c.pf addr limit) := by
  have hlo4 : clearLow addr 12 % 4096 = 0 := by simp only [clearLow]; omega
  refine ⟨2^(c.sb c.n), top_lt hpf hh, ?_⟩
  unfold lowestMapped
  rw [pageMask_eq hpf]
  simp only [andNot_eq addr (addr_lt_W hh.1 hh.2.1)]
  by_cases hr : c.root.as = NOADDR
  · rw [firstStep_nodata c hpf hr]
    exact post_here (by decide) hh.1 (wk_nodata c hpf hr _)
  · rw [firstStep_ok c hpf hr _ (canon_of_half hpf hh (Nat.le_refl _) hh.1)]
    exact (lmTbl_post c hpf hmask hmemok hh.2.1 (c.n + 1) c.n _ _ (at_init c hpf _)
      (xf_ok hpf).1 (Nat.le_refl _) (Nat.le_succ _) hh.1 hlo4).mono
      (fun x h1 h2 hq => (wk_eq_G c hpf hmask hr hh h1 h2).trans hq)
      (fun st a s h1 h2 => StopAt.congr (wk_eq_G c hpf hmask hr hh h1 h2))

/-- `lowest_unmapped`: the answer is the least page of `[addr & ~0xfff, limit]` whose walk ends in
"not present"; everything below it translates. -/
theorem lowestUnmapped_post (addr limit : Nat)
    (hh : SameHalf c.pf (clearLow addr 12) limit) :
    ∃ T, limit < (clearLow addr 12 / T + 1) * T ∧
      Post (Translates (walkTarget c)) (StopLu (walkTarget c)) limit T (clearLow addr 12)
        (lowestUnmapped (firstStep c.meth) c.sf c.pf addr limit) := by
  have hlo4 : clearLow addr 12 % 4096 = 0 := by simp only [clearLow]; omega
  refine ⟨2^(c.sb c.n), top_lt hpf hh, ?_⟩
  unfold lowestUnmapped
  rw [pageMask_eq hpf]
  simp only [andNot_eq addr (addr_lt_W hh.1 hh.2.1)]
  by_cases hr : c.root.as = NOADDR
  · rw [firstStep_nodata c hpf hr]
    exact post_here (by decide) hh.1 (wk_nodata c hpf hr _)
  · rw [firstStep_ok c hpf hr _ (canon_of_half hpf hh (Nat.le_refl _) hh.1)]
    exact (luTbl_post c hpf hmask hmemok hh.2.1 (c.n + 1) c.n _ _ (at_init c hpf _)
      (xf_ok hpf).1 (Nat.le_refl _) (Nat.le_succ _) hh.1 hlo4).mono
      (fun x h1 h2 ⟨b, hb⟩ => ⟨b, (wk_eq_G c hpf hmask hr hh h1 h2).trans hb⟩)
      (fun st a s h1 h2 => StopLu.congr (wk_eq_G c hpf hmask hr hh h1 h2))

/-- `highest_mapped`: the answer is the greatest mapped address of `[limit, addr | 0xfff]`. -/
theorem highestMapped_post (addr limit : Nat)
    (hh : SameHalf c.pf limit (addr ||| 4095)) :
    ∃ T, (addr ||| 4095) / T * T ≤ limit ∧
      PostD (NotPresent (walkTarget c)) (StopAt 4095 (walkTarget c)) limit T (addr ||| 4095)
        (highestMapped (firstStep c.meth) c.sf c.pf addr limit) := by
  refine ⟨2^(c.sb c.n), top_le hpf hh, ?_⟩
  unfold highestMapped
  rw [pageMask_eq hpf]
  simp only []
  by_cases hr : c.root.as = NOADDR
  · rw [firstStep_nodata c hpf hr]
    exact postD_here (by decide) hh.1 (wk_nodata c hpf hr _)
  · rw [firstStep_ok c hpf hr _ (canon_of_half hpf hh hh.1 (Nat.le_refl _))]
    exact (hmTbl_post c hpf hmask hmemok (c.n + 1) c.n _ _ (at_init c hpf _)
      (xf_ok hpf).1 (Nat.le_refl _) (Nat.le_succ _) hh.1 hh.2.1 (or_4095 addr)).mono
      (fun x h1 h2 hq => (wk_eq_G c hpf hmask hr hh h1 h2).trans hq)
      (fun st a s h1 h2 => StopAt.congr (wk_eq_G c hpf hmask hr hh h1 h2))

end

end Kdf.Lemmas.Scan
