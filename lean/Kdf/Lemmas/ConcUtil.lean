import Kdf.Lemmas.ConcInv
import Kdf.Lemmas.ConcCache
/-!
Every step changes the record of one thread; `thread_upd` is how a clause of the invariant, which
speaks of all threads, is carried across.  `GInv.of_cinv` assembles the invariant from its parts.
-/
namespace Kdf.Lemmas.Conc
open Kdf.Model.Cache Kdf.Model.Conc Kdf.Lemmas.Cache Kdf.Lemmas.ConcCache

theorem getD_modify {α : Type} (l : List α) (t : Nat) (f : α → α) (t' : Nat) (d : α) :
    (l.modify t f).getD t' d = if t' = t ∧ t < l.length then f (l.getD t d) else l.getD t' d := by
  simp only [List.getD_eq_getElem?_getD, List.getElem?_modify]
  by_cases hji : t' = t
  · subst hji
    by_cases hlt : t' < l.length
    · simp [hlt]
    · simp [hlt]
  · have : ¬ t = t' := fun e => hji e.symm
    simp [hji, this]

theorem count_modify {α : Type} (p : α → Bool) (f : α → α) (d : α) :
    ∀ (l : List α) (t : Nat), t < l.length →
      ((l.modify t f).filter p).length + (if p (l.getD t d) then 1 else 0) =
        (l.filter p).length + (if p (f (l.getD t d)) then 1 else 0)
  | [], t, h => absurd h (Nat.not_lt_zero t)
  | a :: l, 0, _ => by
    simp only [List.modify_zero_cons, List.getD_cons_zero, List.filter_cons]
    cases p a <;> cases p (f a) <;> rfl
  | a :: l, t + 1, h => by
    have ih := count_modify p f d l t (Nat.lt_of_succ_lt_succ h)
    simp only [List.modify_succ_cons, List.getD_cons_succ, List.filter_cons]
    cases p a
    · exact ih
    · simp only [if_true, List.length_cons]; omega

theorem getD_replicate_self {α : Type} (a : α) : ∀ (n t : Nat), (List.replicate n a).getD t a = a
  | 0, _ => rfl
  | n + 1, 0 => rfl
  | n + 1, t + 1 => by
    rw [List.replicate_succ, List.getD_cons_succ]; exact getD_replicate_self a n t

theorem count_replicate_false {α : Type} (p : α → Bool) (a : α) (hp : p a = false) (n : Nat) :
    ((List.replicate n a).filter p).length = 0 := by
  have : (List.replicate n a).filter p = [] := by
    rw [List.filter_eq_nil_iff]
    intro x hx
    rw [List.eq_of_mem_replicate hx, hp]
    exact Bool.false_ne_true
  rw [this]; rfl

theorem holds_of_validAt {pc : Pc} {e : Nat} (h : Pc.validAt pc = some e) : pc.holds = some e := by
  cases pc <;> first | exact h | cases h

theorem holds_of_filledOk {pc : Pc} (h : Pc.filledOk pc = true) : ∃ e, pc.holds = some e := by
  cases pc <;> first | exact ⟨_, rfl⟩ | cases h

theorem reading_of_holds {pc : Pc} {e : Nat} (h : pc.holds = some e) : Pc.reading pc = true := by
  cases pc <;> first | rfl | cases h

theorem idle_or_writing {pc : Pc} (h : Pc.reading pc = false) : pc = .idle ∨ pc = .writing := by
  cases pc
  case idle => exact Or.inl rfl
  case writing => exact Or.inr rfl
  all_goals cases h

theorem thread_upd {s s' : State} {t : Nat} {f : Thread → Thread} (ht : t < s.thr.length)
    (hthr : s'.thr = s.thr.modify t f) (t' : Nat) :
    (t = t' ∧ s'.thread t' = f (s.thread t)) ∨ (t' ≠ t ∧ s'.thread t' = s.thread t') := by
  unfold State.thread
  rw [hthr, getD_modify]
  by_cases h : t' = t
  · exact Or.inl ⟨h.symm, by rw [if_pos ⟨h, ht⟩]⟩
  · exact Or.inr ⟨h, by rw [if_neg (fun hh => h hh.1)]⟩

/-- The alternatives of `step`, one constructor each: thread `t` at this pc, on this event,
produces this result. -/
inductive Alt (cfg : Cfg) (s : State) (t : Nat) : Pc → Ev → Res → Prop
  | rdlock : Alt cfg s t .idle .rdlock
      (if s.writer.isSome then .blocked else .ok ({ s with readers := s.readers + 1 }.setPc t .inRead))
  | wrlock : Alt cfg s t .idle .wrlock
      (if s.writer.isSome ∨ s.readers ≠ 0 then .blocked
        else .ok ({ s with writer := some t }.setPc t .writing))
  | wrunlock : Alt cfg s t .writing .wrunlock (.ok ({ s with writer := none }.setPc t .idle))
  | rdunlock : Alt cfg s t .inRead .rdunlock (.ok ({ s with readers := s.readers - 1 }.setPc t .idle))
  | lockRead : Alt cfg s t .inRead .lock
      (if s.lock.isSome then .blocked else .ok ({ s with lock := some t }.setPc t .locked1))
  | unlock1 : Alt cfg s t .locked1 .unlock (.ok ({ s with lock := none }.setPc t .inRead))
  | get (k : Nat) : Alt cfg s t .locked1 (.get k)
      (match Kdf.Model.Cache.get s.cache k with
      | .error e => .err e
      | .ok (c', .busy) => .ok { s with cache := c', thr := s.thr.modify t fun x => { x with key := k } }
      | .ok (c', .entry e true) =>
        .ok { s with cache := c', thr := s.thr.modify t fun x => { x with key := k, dat := c'.dataOf e, pc := .hitL e } }
      | .ok (c', .entry e false) =>
        .ok { s with cache := c', thr := s.thr.modify t fun x => { x with key := k, dat := c'.dataOf e, pc := .missL e } }
      | .ok (_, .done) => .refused)
  | unlockHit (e : Nat) : Alt cfg s t (.hitL e) .unlock (.ok ({ s with lock := none }.setPc t (.copy e)))
  | unlockMiss (e : Nat) : Alt cfg s t (.missL e) .unlock (.ok ({ s with lock := none }.setPc t (.fill e)))
  | fillLocked (e : Nat) (ok : Bool) : Alt cfg s t (.missL e) (.fillEnd ok) (doFill s t ok (.locked2 e ok))
  | lockFill (e : Nat) : Alt cfg s t (.fill e) .lock
      (if s.lock.isSome then .blocked else .ok ({ s with lock := some t }.setPc t (.fillL e)))
  | unlockFill (e : Nat) : Alt cfg s t (.fillL e) .unlock (.ok ({ s with lock := none }.setPc t (.fill e)))
  | fillEnd (e : Nat) (ok : Bool) : Alt cfg s t (.fill e) (.fillEnd ok) (doFill s t ok (.filled e ok))
  | copyEarly (e : Nat) : Alt cfg s t (.fill e) .copy
      (if (s.cache.ent e).state = .valid then doCopy s t e else .refused)
  | lockFilled (e : Nat) (ok : Bool) : Alt cfg s t (.filled e ok) .lock
      (if s.lock.isSome then .blocked else .ok ({ s with lock := some t }.setPc t (.locked2 e ok)))
  | insert (e : Nat) : Alt cfg s t (.locked2 e true) .insert
      (match Kdf.Model.Cache.insert s.cache e with
      | .error x => .err x
      | .ok (c', _) => .ok ({ s with cache := c' }.setPc t (.hitL e)))
  | discard (e : Nat) : Alt cfg s t (.locked2 e false) .discard
      (match Kdf.Model.Cache.discard s.cache e with
      | .error x => .err x
      | .ok (c', _) => .ok ({ s with cache := c' }.setPc t .locked1))
  | copy (e : Nat) : Alt cfg s t (.copy e) .copy (doCopy s t e)
  | lockPut (e : Nat) : Alt cfg s t (.put0 e) .lock
      (if cfg.lockedPut then
        (if s.lock.isSome then .blocked else .ok ({ s with lock := some t }.setPc t (.putL e)))
      else .refused)
  | put (e : Nat) : Alt cfg s t (.putL e) .put
      (match Kdf.Model.Cache.put s.cache e with
      | .error x => .err x
      | .ok (c', _) => .ok ({ s with cache := c' }.setPc t .locked1))
  | load (e : Nat) : Alt cfg s t (.put0 e) .load
      (if cfg.lockedPut then .refused else .ok (s.setPc t (.putU e (s.cache.refcnt e))))
  | store (e tmp : Nat) : Alt cfg s t (.putU e tmp) .store
      (.ok ({ s with cache := s.cache.modEnt e fun x => { x with refcnt := decU32 tmp } }.setPc t .inRead))

/-- a result of `step` other than `refused` is the result of one of its alternatives -/
theorem step_alt {cfg : Cfg} {s : State} {t : Nat} {ev : Ev} {r : Res}
    (hs : Kdf.Model.Conc.step cfg s t ev = r) (hr : r ≠ .refused) :
    t < s.thr.length ∧ ∃ pc r0, (s.thread t).pc = pc ∧ Alt cfg s t pc ev r0 ∧ r0 = r := by
  unfold Kdf.Model.Conc.step at hs
  by_cases hge : t ≥ s.thr.length
  · rw [if_pos hge] at hs; exact absurd hs.symm hr
  refine ⟨Nat.lt_of_not_ge hge, ?_⟩
  simp only [if_neg hge] at hs
  split at hs
  -- the last alternative is `refused`; each of the others is its constructor
  all_goals first
    | exact absurd hs.symm hr
    | (rename_i hpc; exact ⟨_, _, hpc, by constructor, hs⟩)


theorem thread_default {s : State} {t : Nat} (ht : s.thr.length ≤ t) : s.thread t = default := by
  unfold State.thread
  rw [List.getD_eq_getElem?_getD, List.getElem?_eq_none ht]
  rfl

theorem thread_of_lt {s : State} {t : Nat} (h : t < s.thr.length) : s.thread t = s.thr[t] := by
  unfold State.thread
  rw [List.getD_eq_getElem?_getD, List.getElem?_eq_getElem h]
  rfl

theorem thread_mem {s : State} {t : Nat} (ht : t < s.thr.length) : s.thread t ∈ s.thr := by
  rw [thread_of_lt ht]; exact List.getElem_mem ht

theorem mem_thread {s : State} {th : Thread} (h : th ∈ s.thr) :
    ∃ t, t < s.thr.length ∧ s.thread t = th := by
  obtain ⟨t, ht, rfl⟩ := List.getElem_of_mem h
  exact ⟨t, ht, thread_of_lt ht⟩

theorem default_pcP : (default : Thread).pc = .idle := rfl

theorem lt_of_pc_ne_idle {s : State} {t : Nat} (h : (s.thread t).pc ≠ .idle) : t < s.thr.length := by
  apply Nat.lt_of_not_le
  intro hge
  rw [thread_default hge] at h
  exact h default_pcP

theorem lt_of_holds {s : State} {t e : Nat} (h : (s.thread t).pc.holds = some e) : t < s.thr.length := by
  apply lt_of_pc_ne_idle
  intro hp
  rw [hp] at h
  cases h

theorem holders_upd {s s' : State} {t : Nat} {f : Thread → Thread} (ht : t < s.thr.length)
    (hthr : s'.thr = s.thr.modify t f) (i : Nat) :
    holders s' i + (if (s.thread t).pc.holds = some i then 1 else 0) =
      holders s i + (if (f (s.thread t)).pc.holds = some i then 1 else 0) := by
  have := count_modify (fun th : Thread => decide (th.pc.holds = some i)) f default s.thr t ht
  simp only [decide_eq_true_eq] at this
  unfold holders State.thread
  rw [hthr]
  exact this

theorem holders_pos {s : State} {t i : Nat} (h : (s.thread t).pc.holds = some i) : 0 < holders s i :=
  List.length_filter_pos_iff.2 ⟨s.thread t, thread_mem (lt_of_holds h), decide_eq_true h⟩

theorem reading_upd {s s' : State} {t : Nat} {f : Thread → Thread} (ht : t < s.thr.length)
    (hthr : s'.thr = s.thr.modify t f) :
    (s'.thr.filter fun th => Pc.reading th.pc).length + (if Pc.reading (s.thread t).pc = true then 1 else 0) =
      (s.thr.filter fun th => Pc.reading th.pc).length +
        (if Pc.reading (f (s.thread t)).pc = true then 1 else 0) := by
  have := count_modify (fun th : Thread => Pc.reading th.pc) f default s.thr t ht
  unfold State.thread
  rw [hthr]
  exact this

/-- the clauses of `GInv` that speak about the cache and the buffers -/
structure CInv (cap : Nat) (s : State) : Prop where
  cinv : Inv s.cache
  ccap : s.cache.cap = cap
  blen : s.buf.length = cap
  ref : ∀ i, s.cache.refcnt i = holders s i
  hold : ∀ t e, (s.thread t).pc.holds = some e →
    e ∈ live s.cache ∧ s.cache.key e = (s.thread t).key ∧ (s.thread t).dat = s.cache.dataOf e
  valid : ∀ t e, Pc.validAt (s.thread t).pc = some e → e ∈ cached s.cache
  fok : ∀ t, Pc.filledOk (s.thread t).pc = true →
    ∃ d, (s.thread t).dat = some d ∧ s.buf.getD d none = some (s.thread t).key
  cont : ∀ i ∈ cached s.cache, ∃ d, s.cache.dataOf i = some d ∧ s.buf.getD d none = some (s.cache.key i)

theorem GInv.toC {cap n : Nat} {s : State} (h : GInv cap n s) : CInv cap s :=
  ⟨h.cinv, h.ccap, h.blen, h.ref, h.hold, h.valid, h.fok, h.cont⟩

variable {cap n : Nat} {s s' : State} {t : Nat}

theorem refcnt_ne_zero_of_holds (h : GInv cap n s) {e : Nat}
    (he : (s.thread t).pc.holds = some e) : s.cache.refcnt e ≠ 0 := by
  rw [h.ref e]; exact Nat.pos_iff_ne_zero.1 (holders_pos he)

/-- what a step does to `cache_lock`: nothing, or take it while it is free, or give it back -/
def LockStep (s s' : State) (t : Nat) (pc pc' : Pc) : Prop :=
  (s'.lock = s.lock ∧ pc'.hasLock = pc.hasLock) ∨
  (s.lock = none ∧ s'.lock = some t ∧ pc'.hasLock = true) ∨
  (pc.hasLock = true ∧ s'.lock = none ∧ pc'.hasLock = false)

theorem lockA_step {f : Thread → Thread} (h : GInv cap n s)
    (ht : t < s.thr.length) (hthr : s'.thr = s.thr.modify t f)
    (hl : LockStep s s' t (s.thread t).pc (f (s.thread t)).pc) :
    ∀ t', (s'.thread t').pc.hasLock = true ↔ s'.lock = some t' := by
  intro t'
  rcases thread_upd ht hthr t' with ⟨rfl, hx⟩ | ⟨hne, hx⟩ <;> rw [hx]
  · rcases hl with ⟨h1, h2⟩ | ⟨-, h2, h3⟩ | ⟨-, h2, h3⟩
    · rw [h1, h2]; exact h.lockA t
    · rw [h2, h3]; exact ⟨fun _ => rfl, fun _ => rfl⟩
    · rw [h2, h3]
      constructor <;> intro hx <;> cases hx
  · rcases hl with ⟨h1, -⟩ | ⟨h1, h2, -⟩ | ⟨h1, h2, -⟩
    · rw [h1]; exact h.lockA t'
    · -- the lock was free: nobody else is inside a critical section
      rw [h2]
      constructor
      · intro hx; rw [(h.lockA t').1 hx] at h1; cases h1
      · intro hx; exact absurd (Option.some.inj hx).symm hne
    · -- `t` was the owner: nobody else is
      rw [h2]
      constructor
      · intro hx
        have := ((h.lockA t').1 hx).symm.trans ((h.lockA t).1 h1)
        exact absurd (Option.some.inj this) hne
      · intro hx; cases hx

/-- `GInv` after thread `t` has moved, from the cache clauses; left to the caller: the three clauses
about `shared->lock` -/
theorem GInv.of_cinv {f : Thread → Thread} (h : GInv cap n s)
    (ht : t < s.thr.length) (hthr : s'.thr = s.thr.modify t f)
    (hbad : (f (s.thread t)).bad = false) (hnp : ∀ e tmp, (f (s.thread t)).pc ≠ .putU e tmp)
    (hl : LockStep s s' t (s.thread t).pc (f (s.thread t)).pc)
    (hc : CInv cap s')
    (hwrA : ∀ t, (s'.thread t).pc = .writing ↔ s'.writer = some t)
    (hwrX : s'.writer.isSome → ∀ t, Pc.reading (s'.thread t).pc = false)
    (hrdN : s'.readers = (s'.thr.filter fun th => Pc.reading th.pc).length) : GInv cap n s' := by
  have hlen : s'.thr.length = s.thr.length := by rw [hthr, List.length_modify]
  refine ⟨hlen.trans h.len, hc.cinv, hc.ccap, hc.blen, hc.ref, lockA_step h ht hthr hl, hwrA, hwrX, hrdN,
    hc.hold, hc.valid, hc.fok, hc.cont, ?_, ?_⟩
  · intro x hx
    obtain ⟨t', ht', rfl⟩ := mem_thread hx
    rcases thread_upd ht hthr t' with ⟨rfl, hx⟩ | ⟨-, hx⟩ <;> rw [hx]
    · exact hbad
    · exact h.bad _ (thread_mem (hlen ▸ ht'))
  · intro t' e tmp
    rcases thread_upd ht hthr t' with ⟨rfl, hx⟩ | ⟨-, hx⟩ <;> rw [hx]
    · exact hnp e tmp
    · exact h.noPutU t' e tmp

/-- the same for a thread that is inside a read before and after and leaves `shared->lock` alone:
nothing is left -/
theorem GInv.of_cinv_reader {f : Thread → Thread} (h : GInv cap n s)
    (ht : t < s.thr.length) (hthr : s'.thr = s.thr.modify t f)
    (hw : s'.writer = s.writer) (hr : s'.readers = s.readers)
    (hrd : Pc.reading (s.thread t).pc = true) (hrd' : Pc.reading (f (s.thread t)).pc = true)
    (hbad : (f (s.thread t)).bad = false) (hnp : ∀ e tmp, (f (s.thread t)).pc ≠ .putU e tmp)
    (hl : LockStep s s' t (s.thread t).pc (f (s.thread t)).pc)
    (hc : CInv cap s') : GInv cap n s' := by
  have hnw : ∀ {pc : Pc}, Pc.reading pc = true → pc ≠ .writing := by
    intro pc h1 h2; rw [h2] at h1; cases h1
  refine GInv.of_cinv h ht hthr hbad hnp hl hc ?_ ?_ ?_
  · intro t'
    rw [hw]
    rcases thread_upd ht hthr t' with ⟨rfl, hx⟩ | ⟨-, hx⟩ <;> rw [hx]
    · exact ⟨fun hx => absurd hx (hnw hrd'), fun hx => absurd ((h.wrA t).2 hx) (hnw hrd)⟩
    · exact h.wrA t'
  · -- a reader is inside: there is no writer
    intro hx
    rw [hw] at hx
    have := h.wrX hx t
    rw [hrd] at this; cases this
  · have := reading_upd ht hthr
    rw [hrd, hrd', if_pos rfl] at this
    rw [hr, h.rdN]
    omega

theorem cinv_keep {f : Thread → Thread} (h : GInv cap n s)
    (ht : t < s.thr.length) (hthr : s'.thr = s.thr.modify t f)
    (hcache : s'.cache = s.cache) (hbuf : s'.buf = s.buf)
    (hholds : (f (s.thread t)).pc.holds = (s.thread t).pc.holds)
    (hkd : ∀ e, (f (s.thread t)).pc.holds = some e →
      (f (s.thread t)).key = (s.thread t).key ∧ (f (s.thread t)).dat = (s.thread t).dat)
    (hval : ∀ e, Pc.validAt (f (s.thread t)).pc = some e → e ∈ cached s.cache)
    (hfok : Pc.filledOk (f (s.thread t)).pc = true → Pc.filledOk (s.thread t).pc = true) :
    CInv cap s' := by
  refine ⟨hcache ▸ h.cinv, hcache ▸ h.ccap, hbuf ▸ h.blen, ?_, ?_, ?_, ?_, ?_⟩
  · intro i
    have := holders_upd ht hthr i
    rw [hholds] at this
    rw [hcache, h.ref i]
    omega
  · intro t' e
    rw [hcache]
    rcases thread_upd ht hthr t' with ⟨rfl, hx⟩ | ⟨-, hx⟩ <;> rw [hx]
    · intro he
      obtain ⟨hk, hd⟩ := hkd e he
      rw [hk, hd]
      exact h.hold t e (hholds ▸ he)
    · exact h.hold t' e
  · intro t' e
    rw [hcache]
    rcases thread_upd ht hthr t' with ⟨rfl, hx⟩ | ⟨-, hx⟩ <;> rw [hx]
    · exact hval e
    · exact h.valid t' e
  · intro t'
    rw [hbuf]
    rcases thread_upd ht hthr t' with ⟨rfl, hx⟩ | ⟨-, hx⟩ <;> rw [hx]
    · intro hf
      obtain ⟨e, he⟩ := holds_of_filledOk hf
      obtain ⟨hk, hd⟩ := hkd e he
      rw [hk, hd]
      exact h.fok t (hfok hf)
    · exact h.fok t'
  · rw [hcache, hbuf]; exact h.cont

end Kdf.Lemmas.Conc
