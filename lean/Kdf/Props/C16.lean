import Kdf.Model.Err
import Kdf.Model.Status
import Kdf.Model.ErrFlow
import Kdf.Lemmas.Err
import Kdf.Lemmas.ErrVadd
import Kdf.Lemmas.ErrFlow
/-!
# C16 — failures carry a documented status and a message that tells the story

The error-string buffer of `err_vadd` (chain, in-bounds, NUL termination, marked
truncation), the status conversions, the probe loop of `open_dump`, and the message
discipline of the callers modelled in `Kdf.Model.ErrFlow`.
-/
namespace Kdf.Props.C16
open Kdf.Model.Err Kdf.Lemmas.Err

theorem init_inv (n : Nat) (h : 2 ≤ n) : Inv (init n) ∧ text (init n) = [] :=
  Inv.of_null (e := init n) h (by simp [init]) rfl rfl

theorem clear_inv (e : ErrBuf) (h : Inv e) : Inv (clear e) ∧ text (clear e) = [] :=
  Inv.of_null (e := clear e) h.bufsz_ge h.buf_len h.no_oob rfl

/-- When the allocation succeeds (or is not needed) the new string is the chain
`msg ++ ": " ++ old`, newest first; the object stays well-formed: NUL-terminated,
nothing written outside the inline buffer or the current heap block. -/
theorem vadd_chain (e : ErrBuf) (h : Inv e) (msg : List Byte) (hm : MsgWF msg) :
    Inv (vadd e msg true) ∧ text (vadd e msg true) = chain msg (text e) := by
  obtain ⟨E, inD, arr, o, dlen, p⟩ := vadd_core h msg
  rw [p.vadd_eq]
  unfold vaddCore
  by_cases hlt : o < msg.length + dlen
  · rw [if_pos hlt, if_pos rfl]
    exact vaddAlloc_spec inD p.base p.arr_eq p.shape hm p.delim
  · rw [if_neg hlt]
    have hf := vaddFit_spec (remain := o) inD p.base p.arr_eq p.shape hm p.delim (by omega) (by omega)
      (fun hD => by have := p.dyn_off hD; omega)
    exact ⟨hf.1, hf.2.1⟩

/-- If the new message and the delimiter fit in front of the current string, no
allocation is attempted: the outcome does not depend on the allocator and the
heap block is untouched. -/
theorem vadd_fits_no_alloc (e : ErrBuf) (h : Inv e) (msg : List Byte) (hm : MsgWF msg)
    (hfit : msg.length + (if text e = [] then 0 else 2) ≤ room e) :
    vadd e msg false = vadd e msg true ∧ (vadd e msg false).dyn = e.dyn := by
  obtain ⟨E, inD, arr, o, dlen, p⟩ := vadd_core h msg
  rw [p.delim.dlen_eq, p.room_eq] at hfit
  have hlt : ¬ o < msg.length + dlen := by omega
  rw [p.vadd_eq, p.vadd_eq]
  unfold vaddCore
  rw [if_neg hlt, if_neg hlt]
  have hf := vaddFit_spec (remain := o) inD p.base p.arr_eq p.shape hm p.delim (by omega) hfit
    (fun hD => by have := p.dyn_off hD; omega)
  refine ⟨rfl, (hf.2.2 ?_).trans p.dyn_eq⟩
  cases inD with
  | false => rfl
  | true => have := p.dyn_off rfl; omega

/-- When memory for a long chain cannot be obtained the string degrades to a
marked truncation: the object stays well-formed (in bounds, NUL-terminated), the
result starts with `<`, and the oldest text is preserved intact as a suffix
(all of it if at least one byte was free, all but its first character, which
the mark overwrites, otherwise). -/
theorem vadd_trunc (e : ErrBuf) (h : Inv e) (msg : List Byte) (hm : MsgWF msg)
    (hnofit : room e < msg.length + (if text e = [] then 0 else 2)) :
    let e' := vadd e msg false
    Inv e' ∧ (text e').head? = some 60 ∧
    (if room e = 0 then (text e).drop 1 <:+ text e' else text e <:+ text e') ∧
    (text e').length ≤ max (e.bufsz - 1) ((text e).length + 1) := by
  obtain ⟨E, inD, arr, o, dlen, p⟩ := vadd_core h msg
  rw [p.delim.dlen_eq, p.room_eq] at hnofit
  have hlt := p.shape.lt
  dsimp only
  rw [p.vadd_eq, p.room_eq]
  unfold vaddCore
  rw [if_pos hnofit, if_neg (by simp)]
  by_cases hp : o = 0
  · subst hp
    rw [if_neg (by simp), if_pos rfl]
    rcases p.delim with ⟨h0, _⟩ | ⟨_, hne⟩
    · have := p.off_pos h0; omega
    · have hsh := p.shape
      cases hold : text e with
      | nil => exact absurd hold hne
      | cons x xs =>
        rw [hold] at hsh
        obtain ⟨hi, ht⟩ := vaddNoRoom_spec inD p.base p.arr_eq hsh
        exact ⟨hi, by rw [ht]; rfl, by rw [ht]; simp, by rw [ht]; simp; omega⟩
  · rw [if_pos hp, if_neg hp]
    obtain ⟨hi, X, ht, hX⟩ := vaddTrunc_spec inD p.base p.arr_eq p.shape hm
      (by rcases p.delim with ⟨h, _⟩ | ⟨h, _⟩ <;> simp [h]) (by omega) (p.bufsz_eq ▸ p.off_le) hnofit
    refine ⟨hi, by rw [ht]; rfl, by rw [ht]; exact List.suffix_append _ _, ?_⟩
    rw [ht]
    simp only [List.length_append, List.length_cons]
    have hle := p.off_le
    cases inD with
    | true => have := p.dyn_off rfl; omega
    | false => have := getArr_len p.base p.arr_eq rfl; have := p.bufsz_eq; omega

theorem vadd_inv (e : ErrBuf) (h : Inv e) (msg : List Byte) (hm : MsgWF msg) (a : Bool) : Inv (vadd e msg a) := by
  cases a with
  | true => exact (vadd_chain e h msg hm).1
  | false =>
    by_cases hfit : msg.length + (if text e = [] then 0 else 2) ≤ room e
    · rw [(vadd_fits_no_alloc e h msg hm hfit).1]; exact (vadd_chain e h msg hm).1
    · exact (vadd_trunc e h msg hm (by omega)).1

/-- Never an access outside the inline buffer, the heap block or the local
buffer — for every message length relative to `bufsz` and both allocation outcomes. -/
theorem vadd_inbounds (e : ErrBuf) (h : Inv e) (msg : List Byte) (hm : MsgWF msg) (a : Bool) :
    (vadd e msg a).oob = false := (vadd_inv e h msg hm a).no_oob

theorem step_inv (e : ErrBuf) (h : Inv e) (o : Op) (hw : o.wf) : Inv (step e o) := by
  cases o with
  | add m a => exact vadd_inv e h m hw a
  | clear => exact (clear_inv e h).1

theorem foldl_step_inv (ops : List Op) : ∀ (e : ErrBuf), Inv e → (∀ o ∈ ops, o.wf) → Inv (ops.foldl step e) := by
  induction ops with
  | nil => intro e h _; exact h
  | cons o ops ih =>
    intro e h hw
    exact ih (step e o) (step_inv e h o (hw o (by simp))) (fun o' ho' => hw o' (by simp [ho']))

theorem foldl_chain (msgs : List (List Byte)) : ∀ (e : ErrBuf), Inv e → (∀ m ∈ msgs, MsgWF m) →
    text ((msgs.map (fun m => Op.add m true)).foldl step e) = msgs.foldl (fun acc m => chain m acc) (text e) := by
  induction msgs with
  | nil => intro e _ _; rfl
  | cons m msgs ih =>
    intro e h hw
    have hc := vadd_chain e h m (hw m (by simp))
    simp only [List.map_cons, List.foldl_cons, step]
    rw [ih (vadd e m true) hc.1 (fun m' hm' => hw m' (by simp [hm'])), hc.2]

/-- The buffer stays well-formed over arbitrary histories of prepends (any lengths, any
allocation outcomes) and clears. -/
theorem history_inv (n : Nat) (hn : 2 ≤ n) (ops : List Op) (hw : ∀ o ∈ ops, o.wf) :
    Inv (ops.foldl step (init n)) := foldl_step_inv ops (init n) (init_inv n hn).1 hw

/-- With a working allocator the string is always the chain of the messages
added since the last clear, newest first, separated by ": ". -/
theorem history_chain (n : Nat) (hn : 2 ≤ n) (msgs : List (List Byte)) (hw : ∀ m ∈ msgs, MsgWF m) :
    text ((msgs.map (fun m => Op.add m true)).foldl step (init n)) =
      msgs.foldl (fun acc m => chain m acc) [] := by
  rw [foldl_chain msgs (init n) (init_inv n hn).1 hw, (init_inv n hn).2]

/-! ### Status conversions and the probe loop -/
open Kdf.Model.Status Kdf.Gen.Status

/-- the two enumerations are what the headers document: consecutive codes from 0 -/
theorem codes_documented : kdumpCodes = [0, 1, 2, 3, 4, 5, 6, 7, 8, 9] ∧ addrxlatCodes = [0, 1, 2, 3, 4, 5, 6] ∧
    noprobe ∉ kdumpCodes := by decide

/-- converting a documented libkdumpfile status to addrxlat and back is the identity -/
theorem status_roundtrip (st : Int) (h : st ∈ kdumpCodes) : addrxlat2kdump (kdump2addrxlat st) = st :=
  (by decide : ∀ st ∈ kdumpCodes, addrxlat2kdump (kdump2addrxlat st) = st) st h

/-- a documented addrxlat status becomes a documented libkdumpfile status -/
theorem addrxlat2kdump_documented (st : Int) (h : st ∈ addrxlatCodes) : addrxlat2kdump st ∈ kdumpCodes :=
  (by decide : ∀ st ∈ addrxlatCodes, addrxlat2kdump st ∈ kdumpCodes) st h

/-- the internal no-probe marker never escapes from opening a file -/
theorem probe_never_noprobe (ps : List Probe) : openDump ps ≠ noprobe := by
  induction ps with
  | nil => decide
  | cons p rest ih =>
    cases p with
    | ok => simp only [openDump]; decide
    | noprobe => simpa [openDump] using ih
    | err st =>
      simp only [openDump]
      split
      · exact ih
      · assumption

/-! ### Non-vacuity -/
example : text (vadd (vadd (init 16) [105, 110, 110, 101, 114] true) [111, 117, 116] true)
    = [111, 117, 116, 58, 32, 105, 110, 110, 101, 114] := by decide
example : text (vadd (vadd (init 8) [97, 98, 99, 100, 101] true) [120, 121, 122] false)
    = [60, 32, 97, 98, 99, 100, 101] := by decide

/-! ## The message discipline above the buffer (`Kdf.Model.ErrFlow`) -/
section Flow
open Kdf.Model.ErrFlow Kdf.Lemmas.ErrFlow

/-- what the property asks of a call that was entered with an empty error string:
the string is empty exactly when the status is OK -/
def Disciplined (r : Res) : Prop := r.1 = 0 ↔ r.2 = []

theorem setError_disciplined (c : Chain) (st : Int) (m : String) (h : st = 0 → c = []) :
    Disciplined (setError c st m) := by
  unfold Disciplined setError
  by_cases hs : st = 0
  · simp [hs, h hs]
  · simp [hs]

theorem part_disciplined (p : Part) (h : p.wf) : Disciplined (p.apply []) := by
  unfold Disciplined Part.apply
  obtain ⟨h0, h1⟩ := h
  by_cases hs : p.st = 0
  · simp [hs, h0 hs]
  · simp [hs, h1 hs]

/-- `direct_read_ok` is a tolerated failure: it never adds text to the error
string; when the read fails the string is empty afterwards. -/
theorem directReadOk_tolerates (caps : Bool) (rd : Part) (hw : rd.wf) (c : Chain) :
    (directReadOk caps rd c).2 = c ∨ ((directReadOk caps rd c).1 = false ∧ (directReadOk caps rd c).2 = []) := by
  unfold directReadOk
  cases caps
  · exact Or.inl rfl
  · by_cases hs : rd.st = 0
    · simp [apply_ok hw hs]
    · simp [Part.apply, hs, clearError]

/-- entered with an empty string (as from every caller right after a successful
step), it leaves the string as it was before the call: empty -/
theorem directReadOk_empty (caps : Bool) (rd : Part) (hw : rd.wf) : (directReadOk caps rd []).2 = [] := by
  rcases directReadOk_tolerates caps rd hw [] with h | h
  · exact h
  · exact h.2

/-- The stories `get_linux_pgtroot` (aarch64, riscv64) can tell, entered with an
empty string: success with an empty string, the failed symbol look-up, or the
failed number look-up — never the text of the tolerated direct read. -/
theorem pgtroot_story (numName : String) (swapper rd num : Part) (caps : Bool)
    (hs : swapper.wf) (hr : rd.wf) (hn : num.wf) :
    let r := getLinuxPgtroot numName swapper caps rd num []
    r = (0, []) ∨
    (swapper.st ≠ 0 ∧ r = (swapper.st, ["Cannot determine page table virtual address",
        "Cannot resolve \"swapper_pg_dir\""] ++ swapper.links)) ∨
    (num.st ≠ 0 ∧ r = (num.st, ["Cannot determine " ++ numName,
        "Cannot get number(" ++ numName ++ ")"] ++ num.links)) := by
  intro r
  show _ ∨ _ ∨ _
  simp only [r]
  unfold getLinuxPgtroot
  by_cases h1 : swapper.st = 0
  · have ht := directReadOk_empty caps rd hr
    generalize hd : directReadOk caps rd [] = d at ht
    obtain ⟨b, t⟩ := d
    subst ht
    simp only [getSymval_ok hs h1, hd, ne_eq, not_true_eq_false, if_false]
    cases b
    · by_cases h3 : num.st = 0
      · simp [getNumber_ok hn h3]
      · simp [getNumber_fail h3, setError_fail h3, h3]
    · simp
  · simp [getSymval_fail h1, setError_fail h1, h1]

theorem pgtroot_disciplined (numName : String) (swapper rd num : Part) (caps : Bool)
    (hs : swapper.wf) (hr : rd.wf) (hn : num.wf) :
    Disciplined (getLinuxPgtroot numName swapper caps rd num []) := by
  rcases pgtroot_story numName swapper rd num caps hs hr hn with h | ⟨h1, h⟩ | ⟨h1, h⟩
  · rw [h]; simp [Disciplined]
  · rw [h]; simp [Disciplined, h1]
  · rw [h]; simp [Disciplined, h1]

/-- `map_linux_aarch64` / `map_linux_riscv64` as a whole: a successful set-up ends
with an empty string whatever the optional linear-map search did, a failing one
with a non-empty string. -/
theorem mapLinuxPgtroot_disciplined (rootOpt : Bool) (numName : String) (swapper rd num physmaps linear : Part)
    (caps : Bool) (hs : swapper.wf) (hr : rd.wf) (hn : num.wf) (hp : physmaps.wf) :
    Disciplined (mapLinuxPgtroot rootOpt numName swapper caps rd num physmaps linear []) := by
  have rest (r : Res) (hroot : Disciplined r) : Disciplined (if r.1 ≠ 0 then r else
      if (physmaps.apply r.2).1 ≠ 0 then physmaps.apply r.2 else (0, clearError (linear.apply (physmaps.apply r.2).2).2)) := by
    by_cases h : r.1 = 0
    · rw [if_neg (by simpa using h), hroot.mp h]
      by_cases h2 : physmaps.st = 0
      · simp [apply_ok hp h2, Disciplined, clearError]
      · simp [Part.apply, h2, Disciplined, hp.2 h2]
    · rw [if_pos h]; exact hroot
  unfold mapLinuxPgtroot
  cases rootOpt
  · exact rest _ (pgtroot_disciplined numName swapper rd num caps hs hr hn)
  · exact rest (0, []) (by simp [Disciplined])

/-- the stories `map_linux_arm` can tell, entered with an empty string -/
def ArmStory (swapper stext mapDirect : Part) (r : Res) : Prop :=
  r = (0, []) ∨
  (swapper.st ≠ 0 ∧ r = (swapper.st, ["Cannot determine page table virtual address",
      "Cannot resolve \"swapper_pg_dir\""] ++ swapper.links)) ∨
  (stext.st ≠ 0 ∧ (r = (stext.st, ["Cannot determine PAGE_BASE"]) ∨
    r = (stext.st, ["Cannot determine PAGE_BASE", "Cannot resolve \"_stext\""] ++ stext.links))) ∨
  (mapDirect.st ≠ 0 ∧ r = (mapDirect.st, mapDirect.links))

theorem mapLinuxArm_outcomes (rootKnown capsOk physBase : Bool) (swapper stext rd mapDirect linDirect : Part)
    (hs : swapper.wf) (hx : stext.wf) (hr : rd.wf) (hm : mapDirect.wf) (hl : linDirect.wf) :
    ArmStory swapper stext mapDirect
      (mapLinuxArm rootKnown swapper stext capsOk rd physBase mapDirect linDirect []) := by
  suffices hknown : ArmStory swapper stext mapDirect
      (mapLinuxArm true swapper stext capsOk rd physBase mapDirect linDirect []) by
    cases rootKnown
    · by_cases h1 : swapper.st = 0
      · rw [mapLinuxArm_root_ok hs h1]; exact hknown
      · rw [mapLinuxArm_root_fail h1]; exact Or.inr (Or.inl ⟨h1, rfl⟩)
    · exact hknown
  unfold mapLinuxArm
  by_cases h2 : stext.st = 0
  · have ht := directReadOk_empty capsOk rd hr
    generalize hd : directReadOk capsOk rd [] = d at ht
    obtain ⟨b, t⟩ := d
    subst ht
    simp only [if_true, getSymval_ok hx h2, hd, ne_eq, not_true_eq_false, if_false]
    generalize (!b && physBase) = q
    cases q
    · simp only [Bool.false_eq_true, if_false, not_true_eq_false, tolerated_apply hl]
      exact Or.inl rfl
    · by_cases h4 : mapDirect.st = 0
      · simp only [if_true, apply_ok hm h4, not_true_eq_false, if_false, tolerated_apply hl]
        exact Or.inl rfl
      · simp only [if_true, Part.apply, h4, not_false_eq_true, List.append_nil]
        exact Or.inr (Or.inr (Or.inr ⟨h4, rfl⟩))
  · have ht := directReadOk_tolerates capsOk rd hr (("Cannot resolve \"" ++ "_stext" ++ "\"") :: (stext.links ++ []))
    generalize hd : directReadOk capsOk rd _ = d at ht
    obtain ⟨b, t⟩ := d
    simp only [if_true, getSymval_fail h2, hd, ne_eq, not_true_eq_false, if_false, h2]
    generalize (!b && physBase) = q
    cases q
    · simp only [Bool.false_eq_true, if_false, not_true_eq_false, clearError]
      exact Or.inl rfl
    · simp only [if_true, setError_fail h2, h2, not_false_eq_true]
      refine Or.inr (Or.inr (Or.inl ⟨h2, ?_⟩))
      rcases ht with h | h
      · right; rw [show t = _ from h, List.append_nil]; rfl
      · left; rw [show t = [] from h.2]

/-- `map_linux_arm`, entered with an empty string: a successful set-up ends with
an empty string — whether or not `_stext` could be resolved, whether or not the
root page table could be read directly, whatever `set_linux_direct` did — and a
failing one with a non-empty string. -/
theorem mapLinuxArm_disciplined (rootKnown capsOk physBase : Bool) (swapper stext rd mapDirect linDirect : Part)
    (hs : swapper.wf) (hx : stext.wf) (hr : rd.wf) (hm : mapDirect.wf) (hl : linDirect.wf) :
    Disciplined (mapLinuxArm rootKnown swapper stext capsOk rd physBase mapDirect linDirect []) := by
  rcases mapLinuxArm_outcomes rootKnown capsOk physBase swapper stext rd mapDirect linDirect hs hx hr hm hl
    with h | ⟨h0, h⟩ | ⟨h0, h | h⟩ | ⟨h0, h⟩
  · rw [h]; simp [Disciplined]
  · rw [h]; simp [Disciplined, h0]
  · rw [h]; simp [Disciplined, h0]
  · rw [h]; simp [Disciplined, h0]
  · rw [h]; simp [Disciplined, h0, hm.2 h0]

/-- The failing chain of `map_linux_arm`: every link is a message of the
set-up itself or comes from the failed look-up / allocation it reports — never
from the tolerated direct read of the root page table or from the optional
linear mapping. -/
theorem mapLinuxArm_story (rootKnown capsOk physBase : Bool) (swapper stext rd mapDirect linDirect : Part)
    (hs : swapper.wf) (hx : stext.wf) (hr : rd.wf) (hm : mapDirect.wf) (hl : linDirect.wf) :
    ∀ l ∈ (mapLinuxArm rootKnown swapper stext capsOk rd physBase mapDirect linDirect []).2,
      l ∈ ["Cannot determine page table virtual address", "Cannot resolve \"swapper_pg_dir\"",
           "Cannot determine PAGE_BASE", "Cannot resolve \"_stext\""] ∨
      l ∈ swapper.links ∨ l ∈ stext.links ∨ l ∈ mapDirect.links := by
  intro l
  rcases mapLinuxArm_outcomes rootKnown capsOk physBase swapper stext rd mapDirect linDirect hs hx hr hm hl
    with h | ⟨_, h⟩ | ⟨_, h | h⟩ | ⟨_, h⟩
  · rw [h]; simp
  · rw [h]; simp +contextual [or_imp]
  · rw [h]; simp +contextual
  · rw [h]; simp +contextual [or_imp]
  · rw [h]; exact fun hl => Or.inr (Or.inr (Or.inr hl))

@[simp] theorem kdumpNODATA_ne_zero : kdumpNODATA ≠ 0 := by decide

/-- `update_xen_extra_ver`, entered with an empty string -/
theorem xenver_disciplined (attrSet : Bool) (reval rd setAttr : Part)
    (hv : reval.wf) (hr : rd.wf) (hs : setAttr.wf) :
    Disciplined (updateXenExtraVer attrSet reval rd setAttr []) := by
  unfold updateXenExtraVer setError Part.apply clearError Disciplined
  obtain ⟨hv0, hv1⟩ := hv
  obtain ⟨hr0, hr1⟩ := hr
  obtain ⟨hs0, hs1⟩ := hs
  cases attrSet
  · simp
  · by_cases h1 : reval.st = 0
    · by_cases h2 : rd.st = kdumpNODATA
      · simp [h1, h2]
      · by_cases h3 : rd.st = 0
        · by_cases h4 : setAttr.st = 0
          · simp [h1, h3, h4, hv0, hr0, hs0, kdumpNODATA_ne_zero.symm]
          · simp [h1, h3, h4, hv0, hr0, kdumpNODATA_ne_zero.symm]
        · simp [h1, h2, h3, hv0]
    · simp [h1]

/-- missing data is tolerated there: the call succeeds and the string is as it
was before the call (empty), whatever the failed read had put into it -/
theorem xenver_tolerates (reval rd setAttr : Part) (h0 : reval.st = 0) (h : rd.st = kdumpNODATA) :
    updateXenExtraVer true reval rd setAttr [] = (0, []) := by
  unfold updateXenExtraVer setError Part.apply clearError
  simp [h0, h]

/-- register reads and writes below `kdump_get_attr` / `kdump_set_attr` -/
theorem derived_disciplined (b : Blob) (key : String) (c : Chain) :
    Disciplined (getDerived b key c) ∧ Disciplined (setDerived b key c) := by
  cases b <;> simp [Disciplined, getDerived, setDerived, derivedAccess, getAttrBlob, setError, clearError, kdumpNODATA, kdumpCORRUPT,
    Kdf.Gen.Status.kdumpCodes]

/-- a failing access names its cause: the innermost link says which blob is missing -/
theorem derived_names_cause (b : Blob) (key : String) (c : Chain) (h : b = .cleared ∨ b = .absent) :
    setDerived b key c = (kdumpNODATA, [key ++ " raw attribute not found"]) ∧
    getDerived b key c = (kdumpNODATA, ["Value cannot be revalidated", key ++ " raw attribute not found"]) := by
  rcases h with h | h <;> subst h <;>
    simp [getDerived, setDerived, derivedAccess, getAttrBlob, setError, clearError, kdumpNODATA, Kdf.Gen.Status.kdumpCodes]


/-- VMCOREINFO look-ups by name: success leaves no message, every miss leaves one -/
theorem vmcoreinfoLookup_disciplined (sym : Bool) (l : VLook) (os : String) (c : Chain) :
    Disciplined (vmcoreinfoLookup sym l os c) := by
  by_cases h : l = .found
  · rw [h, vmcoreinfoLookup_found]; simp [Disciplined]
  · obtain ⟨m, hm⟩ := vmcoreinfoLookup_fail sym l os c h
    rw [hm]; simp [Disciplined]

/-- a name that starts with a dot is a miss like any other: same status, same story -/
theorem vmcoreinfoLookup_dot_is_miss (sym : Bool) (os : String) (c : Chain) :
    vmcoreinfoLookup sym .dot os c = vmcoreinfoLookup sym .miss os c := by
  simp [vmcoreinfoLookup, ostypeAttr]

/-- every failing look-up answers NODATA with exactly one link -/
theorem vmcoreinfoLookup_fail_one_link (sym : Bool) (l : VLook) (os : String) (c : Chain) (h : l ≠ .found) :
    (vmcoreinfoLookup sym l os c).1 = kdumpNODATA ∧ (vmcoreinfoLookup sym l os c).2.length = 1 := by
  obtain ⟨m, hm⟩ := vmcoreinfoLookup_fail sym l os c h
  rw [hm]; exact ⟨rfl, rfl⟩

/-! ### Non-vacuity: concrete runs of the modelled functions -/
example : mapLinuxArm false ⟨0, []⟩ ⟨5, ["no sym _stext"]⟩ true ⟨2, ["page not available"]⟩ true Part.ok Part.ok []
    = (5, ["Cannot determine PAGE_BASE"]) := by decide +kernel
example : mapLinuxArm true ⟨0, []⟩ ⟨5, ["no sym _stext"]⟩ true Part.ok false Part.ok Part.ok [] = (0, []) := by decide
example : getLinuxPgtroot "kimage_voffset" ⟨0, []⟩ true ⟨2, ["page not available"]⟩ ⟨5, ["no num kimage_voffset"]⟩ []
    = (5, ["Cannot determine kimage_voffset", "Cannot get number(kimage_voffset)", "no num kimage_voffset"]) := by decide +kernel
example : updateXenExtraVer true Part.ok ⟨7, ["Cannot read page data at 8192"]⟩ Part.ok []
    = (7, ["Cannot read Xen extra version", "Cannot read page data at 8192"]) := by decide +kernel
example : (⟨2, ["page not available"]⟩ : Part).wf := by simp [Part.wf]

end Flow

section Alloc
open Kdf.Model.ErrFlow

/-- `ctx_malloc` keeps its contract for EVERY size (no size is refused silently): a failure leaves a message, and the
newest link names the object and the size that was asked for -/
theorem ctxMalloc_disciplined (size : Nat) (desc errnoText : String) (got : Bool) :
    Disciplined (ctxMalloc size desc got errnoText []) := by
  cases got <;> simp [Disciplined, ctxMalloc, setErrorSystem, kdumpSYSTEM, Kdf.Gen.Status.kdumpCodes]

theorem ctxMalloc_fail_message (size : Nat) (desc errnoText : String) (c : Chain) :
    (ctxMalloc size desc false errnoText c).1 = kdumpSYSTEM ∧ (ctxMalloc size desc false errnoText c).1 ≠ 0 ∧
    (ctxMalloc size desc false errnoText c).2.head? = some ("Cannot allocate " ++ desc ++ " (" ++ toString size ++ " bytes)") := by
  unfold ctxMalloc setErrorSystem
  refine ⟨by simp, by simp [kdumpSYSTEM, Kdf.Gen.Status.kdumpCodes], ?_⟩
  by_cases h : c = [] <;> simp [h]

theorem ctxMalloc_ok_silent (size : Nat) (desc errnoText : String) (c : Chain) :
    ctxMalloc size desc true errnoText c = (0, c) := by simp [ctxMalloc]

/-- setting the OS type on an s390x dump whose os_info claims a VMCOREINFO of `size` bytes: for every size, when the
allocation fails the call fails with a non-empty chain that names the buffer and the size; otherwise the outcome is
that of the rest of the hook -/
theorem s390OsInfoAlloc_story (size : Nat) (errnoText : String) (rest : Part) (c : Chain) :
    s390OsInfoAlloc size false errnoText rest c =
      (kdumpSYSTEM, ["Cannot allocate VMCOREINFO buffer (" ++ toString size ++ " bytes)", errnoText]) ∧
    s390OsInfoAlloc size true errnoText rest c = rest.apply [] := by
  constructor
  · simp [s390OsInfoAlloc, ctxMalloc, setErrorSystem, clearError, kdumpSYSTEM, Kdf.Gen.Status.kdumpCodes]
  · simp [s390OsInfoAlloc, ctxMalloc, clearError]

theorem s390OsInfoAlloc_disciplined (size : Nat) (got : Bool) (errnoText : String) (rest : Part) (h : rest.wf) (c : Chain) :
    Disciplined (s390OsInfoAlloc size got errnoText rest c) := by
  cases got
  · rw [(s390OsInfoAlloc_story size errnoText rest c).1]
    simp [Disciplined, kdumpSYSTEM, Kdf.Gen.Status.kdumpCodes]
  · rw [(s390OsInfoAlloc_story size errnoText rest c).2]
    exact part_disciplined rest h

example : s390OsInfoAlloc (2 ^ 63) false "Cannot allocate memory" Part.ok ["stale"]
    = (1, ["Cannot allocate VMCOREINFO buffer (9223372036854775808 bytes)", "Cannot allocate memory"]) := by decide +kernel

end Alloc

end Kdf.Props.C16
