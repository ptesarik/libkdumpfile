import Kdf.Model.Derived
import Kdf.Lemmas.DerivedReg
/-! The Xen part of C14: the record split of `.xen_prstatus`, and the per-CPU invariant under
replacement of one CPU. -/
namespace Kdf.Lemmas.DerivedXen
open Kdf.Model.Derived Kdf.Lemmas.DerivedReg

theorem xenSplit_records (recsz : Nat) (h0 : 0 < recsz) :
    ∀ (fuel : Nat) (data : Bytes), data.length ≤ fuel →
      (xenSplit recsz fuel data).length = data.length / recsz ∧
      ∀ n, n < data.length / recsz →
        (xenSplit recsz fuel data)[n]? = some ((data.drop (n * recsz)).take recsz) := by
  intro fuel
  induction fuel with
  | zero =>
    intro data hl
    have : data.length = 0 := by omega
    simp [xenSplit, this]
  | succ f ih =>
    intro data hl
    unfold xenSplit
    by_cases hs : data.length < recsz
    · have hd : data.length / recsz = 0 := Nat.div_eq_of_lt hs
      simp [hs, hd]
    · have hge : recsz ≤ data.length := by omega
      have hne : ¬ (recsz = 0 ∨ data.length < recsz) := by omega
      rw [if_neg hne]
      have hlen : (data.drop recsz).length = data.length - recsz := by simp
      have hf : (data.drop recsz).length ≤ f := by omega
      obtain ⟨i1, i2⟩ := ih (data.drop recsz) hf
      have hdiv : data.length / recsz = (data.length - recsz) / recsz + 1 :=
        Nat.div_eq_sub_div h0 hge
      refine ⟨?_, ?_⟩
      · simp only [List.length_cons, i1, hlen, hdiv]
      · intro n hn
        cases n with
        | zero => simp
        | succ m =>
          have hm : m < (data.drop recsz).length / recsz := by rw [hlen]; omega
          have := i2 m hm
          simp only [List.getElem?_cons_succ, this, List.drop_drop]
          have e : recsz + m * recsz = (m + 1) * recsz := by rw [Nat.succ_mul]; omega
          rw [e]

def AllCpusInvalid (cs : List Cpu) : Prop := ∀ c ∈ cs, AllInvalid c

theorem AllCpusInvalid.setNth {cs : List Cpu} (h : AllCpusInvalid cs) (n : Nat) {c : Cpu}
    (hc : AllInvalid c) : AllCpusInvalid (setNth cs n c) := by
  intro x hx
  rcases mem_setNth hx with hx | rfl
  · exact h x hx
  · exact hc

theorem AllCpusInvalid.get {cs : List Cpu} (h : AllCpusInvalid cs) {n : Nat} {c : Cpu}
    (hc : cs[n]? = some c) : AllInvalid c := h c (List.mem_of_getElem? hc)

theorem cpusUpdate_inv (cs : List Cpu) (h : AllCpusInvalid cs) (n : Nat) (f : Cpu → Option Cpu)
    (hf : ∀ c c', AllInvalid c → f c = some c' → AllInvalid c') :
    AllCpusInvalid ((cpusUpdate cs n f).getD cs) := by
  unfold cpusUpdate
  cases hc : cs[n]? with
  | none => exact h
  | some c =>
    show AllCpusInvalid (((f c).map (setNth cs n)).getD cs)
    cases hfc : f c with
    | none => exact h
    | some c' => exact h.setNth n (hf c c' (h.get hc) hfc)

theorem cpusGetReg_inv (cs : List Cpu) (h : AllCpusInvalid cs) (n i : Nat) :
    AllCpusInvalid (cpusGetReg cs n i).2.1 := by
  unfold cpusGetReg
  cases hc : cs[n]? with
  | none => exact h
  | some c => exact h.setNth n (getReg_allInvalid c (h.get hc) i)

theorem cpusSetReg_inv (cs : List Cpu) (h : AllCpusInvalid cs) (n i v : Nat) :
    AllCpusInvalid (cpusSetReg cs n i v).2 := by
  unfold cpusSetReg
  cases hc : cs[n]? with
  | none => exact h
  | some c => exact h.setNth n (setReg_allInvalid c (h.get hc) i v)

end Kdf.Lemmas.DerivedXen
