import Kdf.Model.Xen
import Kdf.Spec.XenIndex
import Kdf.Lemmas.XenGlue
/-!
# C19 — Xen domain dumps: guest and machine frame views describe the same pages

`l` is the page list of the dump (guest frames of `.xen_pfn`/`.xen_p2m`, or the
machine frames of `.xen_p2m`) in file order, so `l[i]` is the frame whose
content is the `i`-th page of `.xen_pages`.  Hypotheses, all explicit:
the frames are 64-bit values and pairwise distinct (a frame listed twice has
no single page to compare with), and the list has fewer than `2^63` entries
(`int_fast64_t len`).  Nothing is assumed about the order of the list, about
gaps, or about the allocation oracle beyond the build having succeeded; the
uninitialised `cur->pfn` is universally quantified (`junk`).  `qsort` is
an insertion sort over the C comparators (trusted to sort).
-/
namespace Kdf.Props.C19
open Kdf.Model.Xen Kdf.Spec.XenIndex Kdf.Lemmas.Xen

/-- The run-length index equals the list index: for every page list of distinct
frames, in any order, the search of the finished map returns the position of
the frame in the list, and `IDX_NONE` for every frame that is not listed. -/
theorem search_build (ok : Nat → Bool) (junk : Nat) (l : List Nat) (m : PMap)
    (hl : ∀ p ∈ l, p < W) (hnd : l.Nodup) (hlen : l.length < 2^63)
    (hb : build ok junk l = some m) (p : Nat) (hp : p < W) :
    search m p = lookup l p := by
  have _ := hp  -- not needed
  by_cases hm : p ∈ l
  · obtain ⟨i, hi⟩ := List.getElem?_of_mem hm
    rw [found_of_build ok junk l m hl hnd hlen hb i p hi, lookup_of_getElem l hnd i p hi]
  · rw [none_of_build ok junk l m hl hnd hlen hb p hm, lookup_of_not_mem l p hm, IDX_NONE_eq]

/-- every listed frame is found, with the index of its page -/
theorem listed_found (ok : Nat → Bool) (junk : Nat) (l : List Nat) (m : PMap)
    (hl : ∀ p ∈ l, p < W) (hnd : l.Nodup) (hlen : l.length < 2^63)
    (hb : build ok junk l = some m) (i p : Nat) (hi : l[i]? = some p) :
    search m p = i ∧ i ≠ IDX_NONE :=
  ⟨found_of_build ok junk l m hl hnd hlen hb i p hi,
   idx_ne_none l.length i hlen (List.getElem?_eq_some_iff.mp hi).1⟩

/-- frames the dump does not list are reported as missing -/
theorem unlisted_none (ok : Nat → Bool) (junk : Nat) (l : List Nat) (m : PMap)
    (hl : ∀ p ∈ l, p < W) (hnd : l.Nodup) (hlen : l.length < 2^63)
    (hb : build ok junk l = some m) (p : Nat) (hp : p < W) (hn : p ∉ l) :
    search m p = IDX_NONE :=
  have _ := hp
  none_of_build ok junk l m hl hnd hlen hb p hn

/-- if no allocation fails the index is built, for every list -/
theorem build_total (ok : Nat → Bool) (hok : ∀ n, ok n = true) (junk : Nat) (l : List Nat) :
    ∃ m, build ok junk l = some m := by
  obtain ⟨⟨m, c⟩, hs⟩ := buildFrom_total ok hok l (mapStart junk)
  obtain ⟨m', hm'⟩ := addrange_total ok hok m c
  unfold build mapEnd
  rw [hs]
  simp only [hm']
  exact ⟨_, rfl⟩

/-- the field `pfn2idx_map_start` leaves uninitialised never influences the result -/
theorem build_junk_irrelevant (ok : Nat → Bool) (j1 j2 : Nat) (l : List Nat) :
    build ok j1 l = build ok j2 l := by
  cases l with
  | nil => simp [build, buildFrom, mapStart, mapEnd, addrange]
  | cons p ps => simp [build, buildFrom, mapStart, add, addrange]

/-- Hypotheses on a `.xen_p2m` table: distinct guest frames, distinct machine
frames, all below `2^(64 - page_shift)` (so that they have byte addresses). -/
structure GoodTable (be : Bool) (shift : Nat) (tbl : List Entry) : Prop where
  shift_le : shift ≤ 64
  pnodup : (pfns be tbl).Nodup
  mnodup : (mfns be tbl).Nodup
  pbound : ∀ p ∈ pfns be tbl, p < 2^(64 - shift)
  mbound : ∀ p ∈ mfns be tbl, p < 2^(64 - shift)
  len : tbl.length < 2^63

theorem GoodTable.found {be : Bool} {shift : Nat} {tbl : List Entry} (g : GoodTable be shift tbl)
    {okP okM : Nat → Bool} {jP jM : Nat} {pm mm : PMap} (hpm : build okP jP (pfns be tbl) = some pm)
    (hmm : build okM jM (mfns be tbl) = some mm) {i : Nat} {e : Entry} (hi : tbl[i]? = some e) :
    (search pm (toh be e.pfn) = i ∧ toh be e.pfn < 2^(64 - shift)) ∧
    (search mm (toh be e.mfn) = i ∧ toh be e.mfn < 2^(64 - shift)) ∧ i ≠ IDX_NONE ∧ i < tbl.length := by
  have hil := (List.getElem?_eq_some_iff.mp hi).1
  have he := List.mem_of_getElem? hi
  exact ⟨⟨found_in_table okP jP _ g.pbound g.pnodup g.len hpm hi, g.pbound _ (List.mem_map_of_mem he)⟩,
    ⟨found_in_table okM jM _ g.mbound g.mnodup g.len hmm hi, g.mbound _ (List.mem_map_of_mem he)⟩,
    idx_ne_none tbl.length i g.len hil, hil⟩

/-- Converting a listed guest-physical address to machine-physical and back
returns the original address (and the machine address is the listed one). -/
theorem p2m_m2p_roundtrip (okP okM : Nat → Bool) (jP jM : Nat) (be : Bool) (shift mapOff pagesOff : Nat)
    (tbl : List Entry) (d : Dump)
    (hd : mkDump okP okM jP jM true be shift mapOff pagesOff tbl = some d)
    (g : GoodTable be shift tbl) (i : Nat) (e : Entry) (hi : tbl[i]? = some e)
    (off : Nat) (hoff : off < 2^shift) :
    p2m d (toh be e.pfn * 2^shift + off) = .ok (toh be e.mfn * 2^shift + off) ∧
    m2p d (toh be e.mfn * 2^shift + off) = .ok (toh be e.pfn * 2^shift + off) := by
  obtain ⟨pm, mm, hpm, hmm, rfl⟩ := mkDump_some hd
  obtain ⟨⟨hsp, hpb⟩, ⟨hsm, hmb⟩, hne, -⟩ := g.found hpm hmm hi
  rw [p2m_eq, m2p_eq]
  exact ⟨conv_ok _ _ _ _ off hoff i e g.shift_le hsp hne hi hmb,
         conv_ok _ _ _ _ off hoff i e g.shift_le hsm hne hi hpb⟩

/-- The guest view and the machine view of a listed page are the same file
offset (hence the same bytes): page `i` of `.xen_pages`. -/
theorem both_views_same_page (okP okM : Nat → Bool) (jP jM : Nat) (be : Bool) (shift mapOff pagesOff : Nat)
    (tbl : List Entry) (d : Dump)
    (hd : mkDump okP okM jP jM true be shift mapOff pagesOff tbl = some d)
    (g : GoodTable be shift tbl) (hfile : pagesOff + tbl.length * 2^shift ≤ 2^63)
    (i : Nat) (e : Entry) (hi : tbl[i]? = some e) (off off' : Nat) (hoff : off < 2^shift) (hoff' : off' < 2^shift) :
    getPage d .kphys (toh be e.pfn * 2^shift + off) = .ok (pagesOff + i * 2^shift) ∧
    getPage d .machphys (toh be e.mfn * 2^shift + off') = .ok (pagesOff + i * 2^shift) := by
  obtain ⟨pm, mm, hpm, hmm, rfl⟩ := mkDump_some hd
  obtain ⟨⟨hsp, -⟩, ⟨hsm, -⟩, hne, hil⟩ := g.found hpm hmm hi
  exact ⟨getPage_ok _ .kphys _ off hoff i hsp hne hil hfile,
         getPage_ok _ .machphys _ off' hoff' i hsm hne hil hfile⟩

/-- Frames the dump does not list are missing in both views: no page, no conversion. -/
theorem unlisted_missing_both (okP okM : Nat → Bool) (jP jM : Nat) (be : Bool) (shift mapOff pagesOff : Nat)
    (tbl : List Entry) (d : Dump)
    (hd : mkDump okP okM jP jM true be shift mapOff pagesOff tbl = some d)
    (g : GoodTable be shift tbl) (f off : Nat) (hf : f < 2^(64 - shift)) (hoff : off < 2^shift) :
    (f ∉ pfns be tbl → getPage d .kphys (f * 2^shift + off) = .error .nodata ∧
                        p2m d (f * 2^shift + off) = .error .nodata) ∧
    (f ∉ mfns be tbl → getPage d .machphys (f * 2^shift + off) = .error .nodata ∧
                        m2p d (f * 2^shift + off) = .error .nodata) := by
  have _ := hf  -- not needed
  obtain ⟨pm, mm, hpm, hmm, rfl⟩ := mkDump_some hd
  constructor
  · intro hn
    have hs := none_in_table okP jP _ g.pbound g.pnodup g.len hpm hn
    rw [p2m_eq]
    exact ⟨getPage_nodata _ .kphys f off hoff hs, conv_nodata _ _ _ f off hoff hs⟩
  · intro hn
    have hs := none_in_table okM jM _ g.mbound g.mnodup g.len hmm hn
    rw [m2p_eq]
    exact ⟨getPage_nodata _ .machphys f off hoff hs, conv_nodata _ _ _ f off hoff hs⟩

/-- The pfn-only layout (auto-translated guest): listed guest frames give their
page, unlisted ones are missing. -/
theorem pfn_only_view (okP okM : Nat → Bool) (jP jM : Nat) (be : Bool) (shift mapOff pagesOff : Nat)
    (tbl : List Entry) (d : Dump)
    (hd : mkDump okP okM jP jM false be shift mapOff pagesOff tbl = some d)
    (hs : shift ≤ 64) (hnd : (pfns be tbl).Nodup) (hb : ∀ p ∈ pfns be tbl, p < 2^(64 - shift))
    (hlen : tbl.length < 2^63) (hfile : pagesOff + tbl.length * 2^shift ≤ 2^63)
    (off : Nat) (hoff : off < 2^shift) :
    (∀ i e, tbl[i]? = some e → getPage d .kphys (toh be e.pfn * 2^shift + off) = .ok (pagesOff + i * 2^shift)) ∧
    (∀ f, f < 2^(64 - shift) → f ∉ pfns be tbl → getPage d .kphys (f * 2^shift + off) = .error .nodata) := by
  have _ := hs  -- not needed: `xc_get_page` does no 64-bit shifting of the frame
  obtain ⟨pm, mm, hpm, -, rfl⟩ := mkDump_some hd
  constructor
  · intro i e hi
    have hil : i < tbl.length := (List.getElem?_eq_some_iff.mp hi).1
    exact getPage_ok _ .kphys _ off hoff i (found_in_table okP jP _ hb hnd hlen hpm hi)
      (idx_ne_none tbl.length i hlen hil) hil hfile
  · intro f _ hn
    exact getPage_nodata _ .kphys f off hoff (none_in_table okP jP _ hb hnd hlen hpm hn)

/-! ## Histories: option changes re-initialise the translation system -/

/-- what an application does between `open` and `close`: change a translation option,
ask for the translation (`kdump_get_addrxlat`, or a read that needs it) while the
library's set-up succeeds / fails after the wipe / fails before it -/
inductive XOp
  | setOpt | fetch (o : OsInit)
  deriving Repr

def xStep (d : Dump) (x : Xlat) : XOp → Xlat
  | .setOpt => setOpt x
  | .fetch o => (revalidate d o x).2

def xRun (d : Dump) (x : Xlat) : List XOp → Xlat
  | [] => x
  | op :: t => xRun d (xStep d x op) t

/-- a system that is not flagged dirty holds the xc_core methods iff the dump needs them -/
def XInv (d : Dump) (x : Xlat) : Prop := x.dirty = false → x.xc = d.nonauto

theorem xStep_inv (d : Dump) (x : Xlat) (op : XOp) (hx : XInv d x) : XInv d (xStep d x op) := by
  cases op with
  | setOpt => intro h; simp [xStep, setOpt] at h
  | fetch o =>
    simp only [xStep, revalidate]
    by_cases hd : x.dirty = true
    · rw [if_pos hd]
      cases o with
      | ok => intro _; cases hn : d.nonauto <;> simp [vtopInit, xcPost, hn]
      | failWiped => intro h; simp [vtopInit] at h
      | failEarly => intro h; simp [vtopInit] at h
    · rw [if_neg hd]; exact hx

theorem xRun_inv (d : Dump) (ops : List XOp) (x : Xlat) (hx : XInv d x) : XInv d (xRun d x ops) := by
  induction ops generalizing x with
  | nil => exact hx
  | cons op t ih => exact ih _ (xStep_inv d x op hx)

/-- After every history of option changes and (successful or failing) set-ups, starting from
the freshly opened dump, a translation system that is not flagged dirty has the P2M/M2P
methods of a non-auto-translated dump installed … -/
theorem xlat_history (d : Dump) (ops : List XOp) : XInv d (xRun d {} ops) :=
  xRun_inv d ops {} (by intro h; simp at h)

/-- … so whenever the application is handed the translation system (the set-up reported
success), guest→machine and machine→guest conversions are the same functions of the page
list as on the first use — those of `p2m_m2p_roundtrip` — whatever was changed in between. -/
theorem reinit_same_function (d : Dump) (hn : d.nonauto = true) (ops : List XOp) (o : OsInit)
    (hok : (revalidate d o (xRun d {} ops)).1 = true) (addr : Nat) :
    convP2m d (revalidate d o (xRun d {} ops)).2 addr = some (p2m d addr) ∧
    convM2p d (revalidate d o (xRun d {} ops)).2 addr = some (m2p d addr) := by
  rw [revalidate_fst, Bool.not_eq_true'] at hok
  have hxc : (revalidate d o (xRun d {} ops)).2.xc = d.nonauto :=
    xStep_inv d _ (.fetch o) (xlat_history d ops) hok
  simp [convP2m, convM2p, hxc, hn]

/-- A set-up that fails is not forgotten: the system stays flagged, so the next request runs
`vtop_init` again (and reports the failure again) instead of handing out the wiped system. -/
theorem failed_setup_retried (d : Dump) (x : Xlat) (o : OsInit) (hf : (revalidate d o x).1 = false) :
    (revalidate d o x).2.dirty = true := by
  rw [revalidate_fst, Bool.not_eq_false'] at hf
  exact hf

/-! ## Re-open histories: one context, one dump after the other

`openCtx` is `kdump_open_fd` (or setting `file.fd`) on a context in ANY state `c` — in
particular one that had dumps of either kind open before.  The theorems say that nothing of
`c` reaches the views: the private data (both frame maps and the translation mode that
`xc_get_page` / `xc_post_addrxlat` read) is that of `mkDump` on the last file, to which the
theorems above apply, and once the translation has been set up again the whole state equals
that of a context that was created for this file. -/

/-- the private data after an open is that of the last dump alone -/
theorem reopen_last_dump_only (okP okM : Nat → Bool) (jP jM : Nat) (c : Ctx) (s : Spec) :
    (openCtx okP okM jP jM c s).map (·.file) =
      (mkDump okP okM jP jM s.p2m s.be s.shift s.mapOff s.pagesOff s.tbl).map some := by
  rw [openCtx_eq, Option.map_map]
  rfl

/-- the stored translation mode after an open is the one the last file's section asks for -/
theorem reopen_mode_of_last (okP okM : Nat → Bool) (jP jM : Nat) (c c' : Ctx) (s : Spec)
    (h : openCtx okP okM jP jM c s = some c') :
    c'.xenXlat = s.p2m ∧ ∃ d, c'.file = some d ∧ d.nonauto = s.p2m ∧ c'.x.dirty = true := by
  rw [openCtx_eq] at h
  obtain ⟨d, hd, rfl⟩ := Option.map_eq_some_iff.mp h
  obtain ⟨pm, mm, -, -, rfl⟩ := mkDump_some hd
  exact ⟨rfl, _, rfl, rfl, rfl⟩

/-- after the translation has been set up again the state is that of a fresh context -/
theorem reopen_views_last_only (okP okM : Nat → Bool) (jP jM : Nat) (c c₁ c₂ : Ctx) (s : Spec)
    (h₁ : openCtx okP okM jP jM c s = some c₁) (h₂ : openCtx okP okM jP jM {} s = some c₂) :
    fetchXlat .ok c₁ = fetchXlat .ok c₂ := by
  rw [openCtx_eq] at h₁ h₂
  obtain ⟨d, hd, rfl⟩ := Option.map_eq_some_iff.mp h₁
  rw [hd] at h₂
  obtain rfl := Option.some.inj h₂
  rfl

/-- a whole history of opens (dumps of either kind, in any order) leaves the views of the last one -/
theorem history_last_only (okP okM : Nat → Bool) (jP jM : Nat) (ss : List Spec) (c c₁ c₂ : Ctx) (s : Spec)
    (h₁ : openAll okP okM jP jM c (ss ++ [s]) = some c₁) (h₂ : openAll okP okM jP jM {} [s] = some c₂) :
    fetchXlat .ok c₁ = fetchXlat .ok c₂ := by
  have single : ∀ c, openAll okP okM jP jM c [s] = openCtx okP okM jP jM c s := fun c => Option.bind_fun_some _
  induction ss generalizing c with
  | nil =>
    rw [List.nil_append, single] at h₁
    rw [single] at h₂
    exact reopen_views_last_only okP okM jP jM c c₁ c₂ s h₁ h₂
  | cons t ts ih =>
    rw [List.cons_append, openAll] at h₁
    obtain ⟨a, -, ha⟩ := Option.bind_eq_some_iff.mp h₁
    exact ih a ha

/-! ## Non-vacuity: the hypotheses are met by concrete, non-trivial states -/

/-- a mixed list: ascending run, isolated frame, descending run, frames at both
ends of the 64-bit space, numerically adjacent pieces listed apart -/
def exList : List Nat := [5, 6, 7, 20, 3, 2, 2^64 - 1, 0, 4, 2^32 + 1, 2^32]

example : (∀ p ∈ exList, p < W) ∧ exList.Nodup ∧ exList.length < 2^63 := by decide
example : (build (fun _ => true) 0 exList).map (fun m => (m.ranges.length, m.singles.length)) = some (3, 4) := by decide
example : (build (fun _ => true) 0 exList).map (fun m => exList.map (search m)) = some (List.range 11) := by decide
example : (build (fun _ => true) 0 exList).map (fun m => [1, 8, 19, 21, 2^64 - 2, 2^32 + 2].map (search m)) =
    some (List.replicate 6 IDX_NONE) := by decide

def exTbl : List Entry := [⟨0x50, 0x4fff⟩, ⟨0xf, 0x7000⟩, ⟨0x10, 0x5000⟩, ⟨0x11, 0x5001⟩, ⟨0x33, 0x6802⟩, ⟨0x32, 0x6801⟩]

example : GoodTable false 12 exTbl := by
  refine ⟨by decide, by decide, by decide, ?_, ?_, by decide⟩ <;> decide
def exDump : Option Dump := mkDump (fun _ => true) (fun _ => true) 0 0 true false 12 0x1000 0x2000 exTbl

example : exDump.map (fun d => (p2m d 0x10123, m2p d 0x5000123)) = some (.ok 0x5000123, .ok 0x10123) := by decide
example : exDump.map (fun d => (getPage d .kphys 0x10123, getPage d .machphys 0x5000fff)) = some (.ok 0x4000, .ok 0x4000) := by decide
example : exDump.map (fun d => (getPage d .kphys 0x12000, m2p d 0x5002000)) = some (.error .nodata, .error .nodata) := by decide

-- a history: first use, two option changes, a failing set-up (wiped), a repaired option, use
example : exDump.map (fun d => xRun d {} [.fetch .ok, .setOpt, .setOpt, .fetch .failWiped, .fetch .failWiped, .setOpt, .fetch .ok])
    = some ⟨false, true⟩ := by decide
example : exDump.map (fun d => (revalidate d .failWiped (xRun d {} [.fetch .ok, .setOpt])).2) = some ⟨true, false⟩ := by decide
example : exDump.map (fun d => convP2m d (xRun d {} [.fetch .ok, .setOpt, .fetch .ok]) 0x10123) = some (some (.ok 0x5000123)) := by decide

-- re-open histories: a PV dump, then an HVM dump with the same guest frames on the same context:
-- the machine view is the guest view again, no stale machine-frame map, no xc_core methods
def exPfnSpec : Spec := ⟨false, false, 12, 0x1000, 0x2000, exTbl.map fun e => ⟨e.pfn, 0⟩⟩
def exP2mSpec : Spec := ⟨true, false, 12, 0x1000, 0x2000, exTbl⟩
def exOpen : Ctx → Spec → Option Ctx := openCtx (fun _ => true) (fun _ => true) 0 0
example : ((exOpen {} exP2mSpec).bind (exOpen · exPfnSpec)).map (fun c => (c.xenXlat, c.file.map fun d => (getPage d .machphys 0x10123, getPage d .machphys 0x5000123)))
    = some (false, some (.ok 0x4000, .error .nodata)) := by decide
example : ((exOpen {} exPfnSpec).bind (exOpen · exP2mSpec)).map (fun c => (c.xenXlat, c.file.map fun d => (getPage d .machphys 0x10123, getPage d .machphys 0x5000123)))
    = some (true, some (.error .nodata, .ok 0x4000)) := by decide
example : (((exOpen {} exP2mSpec).map (fun c => (fetchXlat .ok c).2)).bind (exOpen · exPfnSpec)).map (fun c => ((fetchXlat .ok c).2.x, c.x))
    = some (⟨false, false⟩, ⟨true, true⟩) := by decide

/-! ### Allocation failures while the indexes are built

`make_xen_pfn_map_nonauto` builds both indexes in one pass and finishes (`pfn2idx_map_end`) first the
guest-frame index, then the machine-frame index; every `realloc` of either may fail.  An open that
reports success has finished BOTH builds — so the theorems above (stated for `mkDump`) apply to it —
and a failure anywhere in the machine-frame build, in particular in its final flush, fails the open. -/

/-- an open of a `.xen_p2m` dump that reports success holds both complete indexes -/
theorem open_ok_both_complete (okP okM : Nat → Bool) (jP jM : Nat) (c c' : Ctx) (s : Spec)
    (hp : s.p2m = true) (h : openCtx okP okM jP jM c s = some c') :
    ∃ d, c'.file = some d ∧ build okP jP (pfns s.be s.tbl) = some d.pfnmap ∧
      build okM jM (mfns s.be s.tbl) = some d.mfnmap := by
  rw [openCtx_eq, hp] at h
  obtain ⟨d, hd, rfl⟩ := Option.map_eq_some_iff.mp h
  obtain ⟨pm, mm, hpm, hmm, rfl⟩ := mkDump_some hd
  exact ⟨_, rfl, hpm, hmm⟩

/-- a failed allocation in the machine-frame index (any step, the final flush included) fails the open -/
theorem open_fails_when_mfn_index_fails (okP okM : Nat → Bool) (jP jM : Nat) (c : Ctx) (s : Spec)
    (hp : s.p2m = true) (hm : build okM jM (mfns s.be s.tbl) = none) :
    openCtx okP okM jP jM c s = none := by
  rw [openCtx_eq, hp]
  unfold mkDump
  rw [hm]
  cases build okP jP (pfns s.be s.tbl) <;> rfl

/-- the final flush of a build is an allocation point: when the range array must grow and that
`realloc` fails, the build fails -/
theorem mapEnd_alloc_fails (ok : Nat → Bool) (m : PMap) (c : Range)
    (hl : c.len > 1 ∨ c.len < -1) (hr : m.ranges.length % ALLOC_INC = 0) (hf : ok (nallocs m) = false) :
    mapEnd ok m c = none := by
  unfold mapEnd addrange
  simp [hl, hr, hf]

end Kdf.Props.C19
