import Kdf.Model.Oom
import Kdf.Lemmas.Oom
import Kdf.Lemmas.OomProg
/-!
# C18 — running out of memory is an error, not an accident

Property theorems for the ledger model `Kdf.Model.Oom` (constructors and
unwinders of `kdump_new`, `kdump_clone`, `alloc_ctx`, `attr_dict_new`,
`xlat_new`/`xlat_clone`, `add_pfn_region`).  Every theorem quantifies over ALL
fault points `n`, all sizes (`g` global attributes, `x` translation
attributes, `k` per-context slots, `m` cloned attributes) and any starting
ledger.  Related theorems proved elsewhere and listed by the check:
`Kdf.Props.C10.set_nomem`, `Kdf.Props.C10.history` (translation map unchanged
on NOMEM), `Kdf.Props.C16.vadd_trunc`, `Kdf.Props.C16.vadd_inbounds` (failed
message allocation degrades to an in-bounds truncation).
-/
namespace Kdf.Props.C18
open Kdf.Model.Oom Kdf.Lemmas.Oom

/-- Nothing of the caller's world changed: ledger, lock holds, undefined-operation
flag and the reference counts of the pre-existing objects. -/
def Restored (s0 s : St) : Prop :=
  s.live = s0.live ∧ s.rd = s0.rd ∧ s.wr = s0.wr ∧ s.bad = s0.bad ∧
  s.shRef = s0.shRef ∧ s.dictRef = s0.dictRef ∧ s.xlatRef = s0.xlatRef

/-- the `failAt`-th allocation falls among the next `t` attempts -/
def Hits (s : St) (t : Nat) : Prop := s.cnt < s.failAt ∧ s.failAt ≤ s.cnt + t

theorem Restored.of_fr {s s' : St} (hl : s'.live = s.live) (f : Fr s s') : Restored s s' :=
  ⟨hl, f.rd, f.wr, f.bad, f.sh, f.di, f.xr⟩

theorem init_hits {n t : Nat} (h1 : 1 ≤ n) (h2 : n ≤ t) : Hits (St.init n) t :=
  ⟨h1, by show n ≤ 0 + t; omega⟩

/-- `kdump_new`: it fails exactly when one of its `7+g+x` allocations fails, and
then everything it allocated is freed again, no lock is held and nothing
undefined happened. -/
theorem kdumpNew_fail (g x : Nat) (s : St) (hl : s.rd = 0 ∧ s.wr = 0) :
    (kdumpNew Fix.all g x s).1 = false → Restored s (kdumpNew Fix.all g x s).2 ∧ Hits s (kdumpNewTotal g x) := by
  intro h
  have f := (kdumpNew_spec g x s hl.1 hl.2).1 h
  exact ⟨.of_fr f.live f.fr, f.hit⟩

theorem kdumpNew_ok (g x : Nat) (s : St) (hl : s.rd = 0 ∧ s.wr = 0) :
    (kdumpNew Fix.all g x s).1 = true →
      ¬ Hits s (kdumpNewTotal g x) ∧
      (kdumpNew Fix.all g x s).2.live.length = s.live.length + kdumpNewTotal g x ∧
      (kdumpNew Fix.all g x s).2.cnt = s.cnt + kdumpNewTotal g x ∧
      (kdumpNew Fix.all g x s).2.rd = 0 ∧ (kdumpNew Fix.all g x s).2.wr = 0 ∧
      (kdumpNew Fix.all g x s).2.bad = s.bad := by
  intro h
  obtain ⟨bl, d, hlen⟩ := (kdumpNew_spec g x s hl.1 hl.2).2 h
  refine ⟨d.nohit, ?_, d.cnt, d.fr.rd.trans hl.1, d.fr.wr.trans hl.2, d.fr.bad⟩
  show _ = s.live.length + (7 + g + x)
  rw [d.live, List.length_append, hlen]; omega

/-- The statement of the property for `kdump_new`, over all fault points. -/
theorem kdumpNew_oom_safe (g x n : Nat) (h1 : 1 ≤ n) (h2 : n ≤ kdumpNewTotal g x) :
    (kdumpNew Fix.all g x (St.init n)).1 = false ∧
    (kdumpNew Fix.all g x (St.init n)).2.live = [] ∧
    (kdumpNew Fix.all g x (St.init n)).2.rd = 0 ∧ (kdumpNew Fix.all g x (St.init n)).2.wr = 0 ∧
    (kdumpNew Fix.all g x (St.init n)).2.bad = false := by
  cases hb : (kdumpNew Fix.all g x (St.init n)).1
  · obtain ⟨r, _⟩ := kdumpNew_fail g x _ ⟨rfl, rfl⟩ hb
    exact ⟨rfl, r.1, r.2.1, r.2.2.1, r.2.2.2.1⟩
  · exact absurd (init_hits h1 h2) (kdumpNew_ok g x _ ⟨rfl, rfl⟩ hb).1

/-- `kdump_clone` (both flag values, any number of per-context slots): on failure
the original's reference counts, the ledger and the lock are as before. -/
theorem kdumpClone_fail (xl : Bool) (k m : Nat) (s : St) (hl : s.rd = 0 ∧ s.wr = 0) :
    (kdumpClone Fix.all xl k m s).1 = false →
      Restored s (kdumpClone Fix.all xl k m s).2 ∧ Hits s (kdumpCloneTotal xl k m) := by
  intro h
  have f := (kdumpClone_spec xl k m s hl.1 hl.2).1 h
  exact ⟨.of_fr f.live f.fr, f.hit⟩

theorem kdumpClone_ok (xl : Bool) (k m : Nat) (s : St) (hl : s.rd = 0 ∧ s.wr = 0) :
    (kdumpClone Fix.all xl k m s).1 = true →
      ¬ Hits s (kdumpCloneTotal xl k m) ∧
      (kdumpClone Fix.all xl k m s).2.live.length = s.live.length + kdumpCloneTotal xl k m ∧
      (kdumpClone Fix.all xl k m s).2.rd = 0 ∧ (kdumpClone Fix.all xl k m s).2.wr = 0 ∧
      (kdumpClone Fix.all xl k m s).2.bad = s.bad ∧
      (kdumpClone Fix.all xl k m s).2.shRef = s.shRef + (if xl then 2 else 1) ∧
      (kdumpClone Fix.all xl k m s).2.dictRef = s.dictRef + 1 ∧
      (kdumpClone Fix.all xl k m s).2.xlatRef = s.xlatRef + (if xl then 0 else 1) := by
  intro h
  obtain ⟨a1, a2, a3, a4, a5, a6, a7, a8⟩ := (kdumpClone_spec xl k m s hl.1 hl.2).2 h
  exact ⟨a1, a2, a3.trans hl.1, a4.trans hl.2, a5, a6, a7, a8⟩

theorem kdumpClone_oom_safe (xl : Bool) (k m n : Nat) (h1 : 1 ≤ n) (h2 : n ≤ kdumpCloneTotal xl k m) :
    (kdumpClone Fix.all xl k m (St.init n)).1 = false ∧
    Restored (St.init n) (kdumpClone Fix.all xl k m (St.init n)).2 := by
  cases hb : (kdumpClone Fix.all xl k m (St.init n)).1
  · exact ⟨rfl, (kdumpClone_fail xl k m _ ⟨rfl, rfl⟩ hb).1⟩
  · exact absurd (init_hits h1 h2) (kdumpClone_ok xl k m _ ⟨rfl, rfl⟩ hb).1

/-- `add_pfn_region`: a failed growth returns NULL and leaves the map as it was;
otherwise the region is appended. -/
theorem addRegion_nomem (inc : Nat) (mp : PfnMap) (r : Nat) :
    addRegion inc mp r false = (none, mp) ∨ addRegion inc mp r false = addRegion inc mp r true := by
  unfold addRegion; split <;> simp

theorem addRegion_fail_unchanged (inc : Nat) (mp : PfnMap) (r : Nat) (a : Bool) :
    (addRegion inc mp r a).1 = none → (addRegion inc mp r a).2 = mp := by
  unfold addRegion; split <;> (try split) <;> simp

theorem addRegion_ok (inc : Nat) (mp : PfnMap) (r : Nat) :
    ∃ mp', addRegion inc mp r true = (some mp', mp') ∧ mp'.regions = mp.regions ++ [r] := by
  unfold addRegion; split <;> simp

/-! ### Concrete runs, with each repair and without -/

/-- concrete runs: 4 global attributes, 3 translation attributes, failing the
8th allocation (an attribute of the dictionary loop); a clean run; a clone with
two slots failing inside `clone_xlat_attrs` -/
example : (kdumpNew Fix.all 4 3 (St.init 8)).1 = false ∧ (kdumpNew Fix.all 4 3 (St.init 8)).2.live = [] := by decide
example : (kdumpNew Fix.all 4 3 (St.init 0)).1 = true ∧ (kdumpNew Fix.all 4 3 (St.init 0)).2.live.length = 14 := by decide
example : (kdumpClone Fix.all true 2 5 (St.init 12)).1 = false ∧ (kdumpClone Fix.all true 2 5 (St.init 12)).2.live = [] := by decide

/-- `attr_dict_new` without its unwinding: failing the 7th allocation leaks the dictionary and an attribute -/
example : (kdumpNew { attrDictUnwind := false } 4 3 (St.init 7)).2.live = [6, 5] := by decide
/-- `xlat_clone` without the NULL check: dereference when `xlat_new` fails (6th allocation of a clone without slots) -/
example : (kdumpClone { xlatNullCheck := false } true 0 5 (St.init 6)).2.bad = true := by decide
/-- `kdump_clone` without the unlock on its early exit: the shared lock stays held -/
example : (kdumpClone { cloneUnlock := false } false 2 0 (St.init 4)).2.rd = 1 := by decide
/-- `kdump_clone` whose error exits do not unwind: two blocks of the translation context stay -/
example : (kdumpClone { cloneUnwind := false } true 0 5 (St.init 4)).2.live = [3, 2] := by decide

/-! ### per-context slots, the LKCD page-size change, the page map built on first use -/

/-- ledger well-formed: block ids are distinct and were all handed out before -/
def Wf (s : St) : Prop := s.live.Nodup ∧ ∀ i ∈ s.live, i ≤ s.cnt

/-- the buffers the object names are live, distinct blocks (nothing dangles, nothing is named twice) -/
def Owned (o : PgObj) (s : St) : Prop :=
  (o.bufs ++ o.cache).Nodup ∧ ∀ b ∈ o.bufs ++ o.cache, b ∈ s.live

theorem Wf.of_live {s s' : St} (hw : Wf s) (hl : s'.live = s.live) (hc : s.cnt ≤ s'.cnt) : Wf s' :=
  ⟨by rw [hl]; exact hw.1, fun i hi => Nat.le_trans (hw.2 i (hl ▸ hi)) hc⟩

/-- `Owned o s` is `Names (o.bufs ++ o.cache) s` -/
def Names (l : List Nat) (s : St) : Prop := l.Nodup ∧ ∀ b ∈ l, b ∈ s.live

theorem Names.of_live {l : List Nat} {s s' : St} (h : Names l s) (hl : s'.live = s.live) : Names l s' :=
  ⟨h.1, fun b hb => hl ▸ h.2 b hb⟩

theorem Names.comm {l₁ l₂ : List Nat} {s : St} (h : Names (l₁ ++ l₂) s) : Names (l₂ ++ l₁) s :=
  ⟨(List.perm_append_comm.nodup_iff).mp h.1,
   fun b hb => h.2 b (List.mem_append.mpr (List.mem_append.mp hb).symm)⟩

/-- `per_ctx_alloc` / `cache_alloc`: when one of the `k` allocations fails, NULL (or -1) is returned and
everything obtained so far has been given back. -/
theorem allocAll_fail (k : Nat) (s : St) :
    (allocAll k s).1 = none → Restored s (allocAll k s).2 ∧ (allocAll k s).2.mtx = s.mtx ∧ Hits s k := by
  rcases hc : allocAll k s with ⟨_ | got, s'⟩
  · have a : AllFail k s s' := allocAll_spec hc
    exact fun _ => ⟨.of_fr a.live a.fr.toFr, a.fr.mtx, a.hit⟩
  · intro h; cases h

theorem allocAll_ok (k : Nat) (s : St) (got : List Nat) :
    (allocAll k s).1 = some got →
      got.length = k ∧ (allocAll k s).2.live = got ++ s.live ∧ (∀ i ∈ got, s.cnt < i) ∧ ¬ Hits s k ∧
      (allocAll k s).2.cnt = s.cnt + k ∧ (allocAll k s).2.bad = s.bad ∧
      (allocAll k s).2.rd = s.rd ∧ (allocAll k s).2.wr = s.wr ∧ (allocAll k s).2.mtx = s.mtx := by
  rcases hc : allocAll k s with ⟨_ | got', s'⟩
  · intro h; cases h
  · intro h; cases h
    have a : AllOk k s s' got := allocAll_spec hc
    exact ⟨a.len, a.live, fun i hi => (a.fresh i hi).1, a.nohit, a.cnt, a.fr.bad, a.fr.rd, a.fr.wr, a.fr.mtx⟩

/-- A new group is allocated, then the old one freed.  New ids are above the counter, live ones are
not: the new group is disjoint from whatever else (`keep`) the object names. -/
theorem swap_spec {k : Nat} {s s1 : St} {nw old keep : List Nat} (hw : Wf s)
    (al : AllOk k s s1 nw) (ho : Names (old ++ keep) s) :
    Wf (freeAll old s1) ∧ FrM s (freeAll old s1) ∧ (freeAll old s1).cnt = s.cnt + k ∧
    nw.length = k ∧ ¬ Hits s k ∧ Names (nw ++ keep) (freeAll old s1) ∧
    (freeAll old s1).live.length + old.length = s.live.length + k := by
  have hcnt := al.cnt
  obtain ⟨hon, hkn, hd⟩ := List.nodup_append.mp ho.1
  have hn1 : s1.live.Nodup := by
    rw [al.live]
    refine List.nodup_append.mpr ⟨al.nodup, hw.1, fun a ha b hb e => ?_⟩
    have := (al.fresh a ha).1; have := hw.2 b hb; omega
  obtain ⟨c1, c2, c3, c4, c5⟩ := freeAll_sub old s1 hn1 hon
    (fun b hb => by rw [al.live]; exact List.mem_append_right _ (ho.2 b (List.mem_append_left _ hb)))
  refine ⟨⟨c1, fun i hi => ?_⟩, al.fr.trans c5, c4.trans al.cnt, al.len, al.nohit, ⟨?_, fun b hb => ?_⟩, ?_⟩
  · rw [c4, al.cnt]
    rcases List.mem_append.mp (al.live ▸ ((c2 i).mp hi).1) with h | h
    · have := (al.fresh i h).2; omega
    · have := hw.2 i h; omega
  · refine List.nodup_append.mpr ⟨al.nodup, hkn, fun a ha b hb e => ?_⟩
    have := (al.fresh a ha).1; have := hw.2 b (ho.2 b (List.mem_append_right _ hb)); omega
  · rw [c2, al.live]
    rcases List.mem_append.mp hb with h | h
    · refine ⟨List.mem_append_left _ h, fun h' => ?_⟩
      have := (al.fresh b h).1; have := hw.2 b (ho.2 b (List.mem_append_left _ h')); omega
    · exact ⟨List.mem_append_right _ (ho.2 b (List.mem_append_right _ h)), fun h' => hd b h' b h rfl⟩
  · rw [al.live, List.length_append, al.len] at c3; omega

theorem pgRound_eq (c m : Nat) (o : PgObj) (s : St) :
    pgRound {} c m o s =
      match allocAll c s with
      | (none, s1) => (false, o, s1)
      | (some nw, s1) =>
        match allocAll m (freeAll o.bufs s1) with
        | (none, s3) => (false, { o with cbuf := some nw }, s3)
        | (some nc, s3) => (true, { cbuf := some nw, cache := nc }, freeAll o.cache s3) := rfl

/-- `lkcd_realloc_compressed`: when the new slot cannot be allocated the object is left exactly as it
was — same slot, same buffers, all of them still allocated. -/
theorem pgRound_slot_fail (c m : Nat) (o : PgObj) (s : St) (h : Hits s c) :
    (pgRound {} c m o s).1 = false ∧ (pgRound {} c m o s).2.1 = o ∧ Restored s (pgRound {} c m o s).2.2 := by
  simp only [pgRound_eq]
  rcases hc : allocAll c s with ⟨_ | nw, s1⟩
  · have a : AllFail c s s1 := allocAll_spec hc
    exact ⟨rfl, rfl, .of_fr a.live a.fr.toFr⟩
  · exact absurd h (allocAll_spec hc : AllOk c s s1 nw).nohit

theorem pgRound_post {c m : Nat} {o o' : PgObj} {s s' : St} {ok : Bool} (hw : Wf s) (ho : Owned o s)
    (h : pgRound {} c m o s = (ok, o', s')) :
    Wf s' ∧ Owned o' s' ∧ FrM s s' ∧
    s'.live.length + (o.bufs.length + o.cache.length) = s.live.length + (o'.bufs.length + o'.cache.length) ∧
    (ok = true → o'.bufs.length = c ∧ o'.cache.length = m ∧ s'.cnt = s.cnt + (c + m) ∧ ¬ Hits s (c + m)) ∧
    (ok = false → Hits s (c + m)) := by
  rcases hc : allocAll c s with ⟨_ | nw, s1⟩
  · -- the slot allocation fails
    have a : AllFail c s s1 := allocAll_spec hc
    simp only [pgRound_eq, hc] at h
    cases h
    refine ⟨hw.of_live a.live a.cnt, Names.of_live ho a.live, a.fr, by rw [a.live], fun h => (by cases h), fun _ => ?_⟩
    have := a.hit
    unfold Hit Hits at *; omega
  · obtain ⟨w2, f2, c2, l2, n2, own2, len2⟩ := swap_spec (old := o.bufs) (keep := o.cache) hw (allocAll_spec hc) ho
    rcases hc2 : allocAll m (freeAll o.bufs s1) with ⟨_ | nc, s3⟩
    · -- the cache allocation fails
      have e : AllFail m (freeAll o.bufs s1) s3 := allocAll_spec hc2
      simp only [pgRound_eq, hc, hc2] at h
      cases h
      refine ⟨w2.of_live e.live e.cnt, own2.of_live e.live, f2.trans e.fr, ?_, fun h => (by cases h), fun _ => ?_⟩
      · show s'.live.length + _ = s.live.length + (nw.length + o.cache.length)
        rw [e.live]; omega
      · have := f2.fa; have := e.hit
        unfold Hit Hits at *; omega
    · obtain ⟨w4, f4, c4, l4, n4, own4, len4⟩ := swap_spec (old := o.cache) (keep := nw) w2 (allocAll_spec hc2) own2.comm
      simp only [pgRound_eq, hc, hc2] at h
      cases h
      refine ⟨w4, own4.comm, f2.trans f4, ?_, fun _ => ?_, fun h => (by cases h)⟩
      · show (freeAll o.cache s3).live.length + _ = s.live.length + (nw.length + nc.length)
        omega
      · have := f2.fa
        refine ⟨l2, l4, by omega, ?_⟩
        unfold Hits at n2 n4 ⊢; omega

/-- One run of the hook chain, whatever fails: the object names live, distinct blocks afterwards,
nothing undefined happened, no lock changed hands, and the number of live blocks that the object does
not name is what it was (nothing leaked, nothing else freed). -/
theorem pgRound_safe (c m : Nat) (o : PgObj) (s : St) (hw : Wf s) (ho : Owned o s) :
    Wf (pgRound {} c m o s).2.2 ∧ Owned (pgRound {} c m o s).2.1 (pgRound {} c m o s).2.2 ∧
    (pgRound {} c m o s).2.2.bad = s.bad ∧ (pgRound {} c m o s).2.2.rd = s.rd ∧
    (pgRound {} c m o s).2.2.wr = s.wr ∧ (pgRound {} c m o s).2.2.mtx = s.mtx ∧
    (pgRound {} c m o s).2.2.failAt = s.failAt ∧
    (pgRound {} c m o s).2.2.live.length + (o.bufs.length + o.cache.length) =
      s.live.length + ((pgRound {} c m o s).2.1.bufs.length + (pgRound {} c m o s).2.1.cache.length) ∧
    ((pgRound {} c m o s).1 = true →
      (pgRound {} c m o s).2.1.bufs.length = c ∧ (pgRound {} c m o s).2.1.cache.length = m ∧
      (pgRound {} c m o s).2.2.cnt = s.cnt + (c + m) ∧ ¬ Hits s (c + m)) ∧
    ((pgRound {} c m o s).1 = false → Hits s (c + m)) := by
  obtain ⟨w, own, f, len, ht, hf⟩ := pgRound_post hw ho rfl
  exact ⟨w, own, f.bad, f.rd, f.wr, f.mtx, f.fa, len, ht, hf⟩

/-- `kdump_set_attr("arch.page_size")` on an open LKCD dump with `c` contexts, over all fault points. -/
theorem setPageSize_safe (c m : Nat) (o : PgObj) (s : St) (hl : s.rd = 0 ∧ s.wr = 0) (hw : Wf s) (ho : Owned o s) :
    Wf (setPageSize {} c m o s).2.2 ∧ Owned (setPageSize {} c m o s).2.1 (setPageSize {} c m o s).2.2 ∧
    (setPageSize {} c m o s).2.2.bad = s.bad ∧ (setPageSize {} c m o s).2.2.rd = 0 ∧
    (setPageSize {} c m o s).2.2.wr = 0 ∧ (setPageSize {} c m o s).2.2.mtx = s.mtx ∧
    (setPageSize {} c m o s).2.2.live.length + (o.bufs.length + o.cache.length) =
      s.live.length + ((setPageSize {} c m o s).2.1.bufs.length + (setPageSize {} c m o s).2.1.cache.length) ∧
    ((setPageSize {} c m o s).1 = true →
      (setPageSize {} c m o s).2.1.bufs.length = c ∧ (setPageSize {} c m o s).2.1.cache.length = m ∧
      ¬ Hits s (setPageSizeTotal c m)) ∧
    ((setPageSize {} c m o s).1 = false → Hits s (setPageSizeTotal c m)) := by
  have ew := wrlock_eq hl.1 hl.2
  -- every exit returns `unlock s'` for a state `s'` that the runs made of `wrlock s`
  have key : ∃ ok o' s', setPageSize {} c m o s = (ok, o', unlock s') ∧ Wf s' ∧ Owned o' s' ∧
      s'.bad = s.bad ∧ s'.rd = 0 ∧ s'.wr = 1 ∧ s'.mtx = s.mtx ∧
      s'.live.length + (o.bufs.length + o.cache.length) = s.live.length + (o'.bufs.length + o'.cache.length) ∧
      (ok = true → o'.bufs.length = c ∧ o'.cache.length = m ∧ ¬ Hits s (setPageSizeTotal c m)) ∧
      (ok = false → Hits s (setPageSizeTotal c m)) := by
    rcases h1 : pgRound {} c m o (wrlock s) with ⟨b1, o1, s1⟩
    obtain ⟨q1, q2, qf, q8, q9, q10⟩ :=
      pgRound_post (hw.of_live (by rw [ew]) (by rw [ew]; exact Nat.le_refl _)) (Names.of_live ho (by rw [ew])) h1
    rw [ew] at qf
    simp only [Hits, ew] at q8 q9 q10
    cases b1
    · refine ⟨false, o1, s1, by simp only [setPageSize, h1], q1, q2, qf.bad, qf.rd.trans hl.1,
        qf.wr, qf.mtx, q8, fun h => (by cases h), fun _ => ?_⟩
      have := q10 rfl
      unfold Hits setPageSizeTotal at *; omega
    · obtain ⟨r1, r2, r3, r4⟩ := q9 rfl
      rcases h2 : pgRound {} c m o1 s1 with ⟨b2, o2, s2⟩
      obtain ⟨t1, t2, tf, t8, t9, t10⟩ := pgRound_post q1 q2 h2
      have fr := qf.trans tf
      refine ⟨b2, o2, s2, by cases b2 <;> simp only [setPageSize, h1, h2], t1, t2, fr.bad,
        fr.rd.trans hl.1, fr.wr, fr.mtx, by omega, fun h => ?_, fun h => ?_⟩
      · obtain ⟨v1, v2, v3, v4⟩ := t9 h
        have : s1.failAt = s.failAt := qf.fa
        refine ⟨v1, v2, ?_⟩
        unfold Hits setPageSizeTotal at *; omega
      · have := t10 h
        have : s1.failAt = s.failAt := qf.fa
        unfold Hits setPageSizeTotal at *; omega
  obtain ⟨ok, o', s', e, w', own', hb, hr, hwr, hm, hlen, ht, hf⟩ := key
  rw [e, unlock_wr_eq hwr]
  exact ⟨w'.of_live rfl (Nat.le_refl _), Names.of_live own' rfl, hb, hr, rfl, hm, hlen, ht, hf⟩

/-- `kdump_get_attr("memory.pagemap")` while the map has still to be built: whatever fails, neither
the shared lock nor `cache_lock` is held at return; the call fails exactly when one of its `g`
allocations does; at most the region array itself (kept by the format data) is new in the ledger. -/
theorem pagemapGet_safe (g : Nat) (s : St) (hl : s.rd = 0 ∧ s.wr = 0 ∧ s.mtx = 0) :
    (pagemapGet {} g s).2.rd = 0 ∧ (pagemapGet {} g s).2.wr = 0 ∧ (pagemapGet {} g s).2.mtx = 0 ∧
    (pagemapGet {} g s).2.bad = s.bad ∧
    ((pagemapGet {} g s).1 = false ↔ Hits s g) ∧
    ((pagemapGet {} g s).2.live = s.live ∨ (pagemapGet {} g s).2.live = (s.cnt + 1) :: s.live) := by
  have en := enter_eq hl.1 hl.2.1 hl.2.2
  -- every exit returns `unlock (munlock s2)`, allocation attempts alone made `s2` of the entry state
  have key : ∃ ok s2, pagemapGet {} g s = (ok, unlock (munlock s2)) ∧ FrM (mlock (rdlock s)) s2 ∧
      (ok = false ↔ Hits s g) ∧ (s2.live = s.live ∨ s2.live = (s.cnt + 1) :: s.live) := by
    cases g with
    | zero =>
      refine ⟨true, mlock (rdlock s), rfl, FrM.refl _, ⟨(fun h => by cases h), fun h => ?_⟩, Or.inl (by rw [en])⟩
      unfold Hits at h; omega
    | succ g =>
      rcases ha : alloc (mlock (rdlock s)) with ⟨_ | i, s1⟩
      · obtain ⟨a1, _, a3, a4⟩ := alloc_spec ha
        refine ⟨false, s1, by simp [pagemapGet, ha], a4, ⟨fun _ => ?_, fun _ => rfl⟩,
          Or.inl (a3.trans (by rw [en]))⟩
        simp only [en] at a1
        unfold Hits; omega
      · obtain ⟨a1, a2, a3, a4, a5⟩ := alloc_spec ha
        obtain ⟨g1, g2, g3, g4⟩ := regrowN_spec g s1
        rcases hr : regrowN g s1 with ⟨b, s2⟩
        rw [hr] at g1 g2 g3 g4
        refine ⟨b, s2, by cases b <;> simp [pagemapGet, ha, hr], a5.trans g2, ?_, Or.inr ?_⟩
        · have := a5.fa
          simp only [en] at a1 a3 this
          show b = false ↔ _
          rw [g4]; unfold Hit Hits; omega
        · rw [g1, a4, a2]; simp only [en]
  obtain ⟨ok, s2, e, fr, hit, lv⟩ := key
  rw [en] at fr
  rw [e, exit_eq (s := s2) fr.rd (fr.wr.trans hl.2.1) fr.mtx]
  exact ⟨rfl, fr.wr.trans hl.2.1, rfl, fr.bad, hit, lv⟩

/-- `kdump_set_attr(file.set.number)` growing the file set: whichever of the `per * k` allocations fails — in the
first new slot or in a later one — the call fails with every block given back and the lock released; it succeeds
exactly when none of them fails. -/
theorem numFilesGrow_safe (per k : Nat) (s : St) (hl : s.rd = 0 ∧ s.wr = 0) :
    (numFilesGrow per k s).2.rd = 0 ∧ (numFilesGrow per k s).2.wr = 0 ∧ (numFilesGrow per k s).2.bad = s.bad ∧
    ((numFilesGrow per k s).1 = false → (numFilesGrow per k s).2.live = s.live ∧ Hits s (per * k)) ∧
    ((numFilesGrow per k s).1 = true →
      (numFilesGrow per k s).2.live.length = s.live.length + per * k ∧ ¬ Hits s (per * k)) := by
  have ew := wrlock_eq hl.1 hl.2
  simp only [numFilesGrow]
  rcases hc : allocAll (per * k) (wrlock s) with ⟨_ | got, s2⟩
  · have a : AllFail (per * k) (wrlock s) s2 := allocAll_spec hc
    rw [ew] at a
    rw [unlock_wr_eq (s := s2) a.fr.wr]
    exact ⟨a.fr.rd.trans hl.1, rfl, a.fr.bad, fun _ => ⟨a.live, a.hit⟩, fun h => by cases h⟩
  · have b : AllOk (per * k) (wrlock s) s2 got := allocAll_spec hc
    rw [ew] at b
    rw [unlock_wr_eq (s := s2) b.fr.wr]
    refine ⟨b.fr.rd.trans hl.1, rfl, b.fr.bad, fun h => (by cases h), fun _ => ⟨?_, b.nohit⟩⟩
    show s2.live.length = s.live.length + per * k
    rw [b.live, List.length_append, b.len]
    exact Nat.add_comm ..

example : (numFilesGrow 4 3 (St.init 7)).1 = false ∧ (numFilesGrow 4 3 (St.init 7)).2.live = [] ∧
    (numFilesGrow 4 3 (St.init 7)).2.wr = 0 := by decide
example : (numFilesGrow 4 3 (St.init 0)).1 = true ∧ (numFilesGrow 4 3 (St.init 0)).2.live.length = 12 := by decide

/-- concrete runs: 3 contexts, a 2-block cache, the old slot buffers 1,2,3 and the old cache 4,5 -/
example : (setPageSize {} 3 2 { cbuf := some [3, 2, 1], cache := [5, 4] } { cnt := 5, live := [5, 4, 3, 2, 1], failAt := 5 + 8 }).1 = false ∧
    (setPageSize {} 3 2 { cbuf := some [3, 2, 1], cache := [5, 4] } { cnt := 5, live := [5, 4, 3, 2, 1], failAt := 5 + 8 }).2.2.live = [10, 9, 8, 7, 6] := by decide
example : (setPageSize {} 3 2 { cbuf := some [3, 2, 1], cache := [5, 4] } { cnt := 5, live := [5, 4, 3, 2, 1], failAt := 0 }).1 = true := by decide
/-- the old slot released before the new one is allocated (`slotFirst := false`): failing the 2nd
allocation leaves the object naming the freed buffers 1,2,3 -/
example : (setPageSize { slotFirst := false } 3 2 { cbuf := some [3, 2, 1], cache := [5, 4] } { cnt := 5, live := [5, 4, 3, 2, 1], failAt := 5 + 2 }).2.1.cbuf = some [3, 2, 1] ∧
    (setPageSize { slotFirst := false } 3 2 { cbuf := some [3, 2, 1], cache := [5, 4] } { cnt := 5, live := [5, 4, 3, 2, 1], failAt := 5 + 2 }).2.2.live = [5, 4] := by decide
/-- an error exit of `mem_pagemap_revalidate` that skips the unlock: `cache_lock` stays held -/
example : (pagemapGet { unlockOnError := false } 1 (St.init 1)).2.mtx = 1 ∧ (pagemapGet {} 1 (St.init 1)).2.mtx = 0 := by decide

end Kdf.Props.C18
