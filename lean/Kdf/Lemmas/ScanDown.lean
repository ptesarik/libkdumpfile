import Kdf.Lemmas.ScanBase
import Kdf.Lemmas.Basic

/-! C08: the descending scanner (`highest_mapped_tbl`): the mirror image of `Kdf.Lemmas.ScanUp`. -/
namespace Kdf.Lemmas.Scan

open Kdf.Model.Pgt Kdf.Model.Scan Kdf.Model.PgtArch Kdf.Spec.ArchWalk Kdf.Lemmas.Pgt
  Kdf.Lemmas.PgtWalk

/-- `e - 1` as the C code computes it (`0 - 1` wraps) -/
def predW (e : Nat) : Nat := (e + W - 1) % W

theorem predW_eq {e : Nat} (h0 : 0 < e) (h1 : e < W) : predW e = e - 1 :=
  add_sub_mod h0 h1

/-- Postcondition of a descending scan started at `va` inside a table of span `T`.  In the "not
present" case `e` is the lowest address that was covered and the returned address is `predW e`. -/
def PostD (Q : Nat → Prop) (Stop : XStatus → Nat → Step → Prop) (limit T va : Nat) : Res → Prop :=
  PostG
    (fun a => ∃ e, a = predW e ∧ (∀ x, e ≤ x → x ≤ va → limit ≤ x → Q x) ∧
      (e = va / T * T ∨ (e ≤ limit ∧ 0 < e)))
    (fun st a s => a ≤ va ∧ limit ≤ a ∧ Stop st a s ∧ ∀ x, a < x → x ≤ va → Q x)

section

variable {Q Q' : Nat → Prop} {Stop Stop' : XStatus → Nat → Step → Prop} {limit T T' va a : Nat}
  {s : Step} {st : XStatus} {res : Res}

theorem postD_here (h : st ≠ .notpresent) (hal : limit ≤ va) (hs : Stop st va s) :
    PostD Q Stop limit T va (.done st va s) :=
  (postG_stop h).2 ⟨Nat.le_refl _, hal, hs, fun _ h1 h2 => absurd h1 (Nat.not_lt.2 h2)⟩

theorem postD_extend (hp : PostD Q Stop limit T a res) (hT : a / T = va / T) (hle : a ≤ va)
    (hq : ∀ x, a < x → x ≤ va → limit ≤ x → Q x) : PostD Q Stop limit T va res := by
  have hq' : ∀ x, x ≤ va → limit ≤ x → (x ≤ a → Q x) → Q x := fun x h1 h2 h3 =>
    if hxa : a < x then hq x hxa h1 h2 else h3 (Nat.le_of_not_lt hxa)
  exact hp.imp
    (fun _ ⟨e, he1, he2, he3⟩ =>
      ⟨e, he1, fun x hx1 hx2 hx3 => hq' x hx2 hx3 (fun hx => he2 x hx1 hx hx3), hT ▸ he3⟩)
    (fun _ a' _ _ ⟨h3, h4, h5, h6⟩ => ⟨Nat.le_trans h3 hle, h4, h5, fun x hx1 hx2 =>
      hq' x hx2 (Nat.le_trans h4 (Nat.le_of_lt hx1)) (fun hx => h6 x hx1 hx)⟩)

theorem PostD.mono (hp : PostD Q Stop limit T va res) (hQ : ∀ x, limit ≤ x → x ≤ va → Q x → Q' x)
    (hS : ∀ st a s, limit ≤ a → a ≤ va → Stop st a s → Stop' st a s) :
    PostD Q' Stop' limit T va res :=
  hp.imp
    (fun _ ⟨e, he1, he2, he3⟩ =>
      ⟨e, he1, fun x hx1 hx2 hx3 => hQ x hx3 hx2 (he2 x hx1 hx2 hx3), he3⟩)
    (fun st a s _ ⟨h1, h2, h3, h4⟩ => ⟨h1, h2, hS st a s h2 h1 h3, fun x hx1 hx2 =>
      hQ x (Nat.le_trans h2 (Nat.le_of_lt hx1)) hx2 (h4 x hx1 hx2)⟩)

theorem PostD.np_all
    (hn : ∃ e, a = predW e ∧ (∀ x, e ≤ x → x ≤ va → limit ≤ x → Q x) ∧
      (e = va / T * T ∨ (e ≤ limit ∧ 0 < e)))
    (hT : va / T * T ≤ limit) : ∀ x, limit ≤ x → x ≤ va → Q x := by
  obtain ⟨e, _, he2, he3⟩ := hn
  have hle : e ≤ limit := by
    rcases he3 with he | he
    · rw [he]; exact hT
    · exact he.1
  exact fun x hx1 hx2 => he2 x (Nat.le_trans hle hx1) hx2 hx1

theorem postD_onRec {k : Nat → Res} (hp : PostD Q Stop limit T' va res)
    (hk : ∀ a s, PostD Q Stop limit T' va (.done .notpresent a s) → PostD Q Stop limit T va (k a)) :
    PostD Q Stop limit T va (onRec k res) :=
  postG_onRec hp (fun a hn => hk a default (postG_np.2 hn)) (fun _ _ _ _ h => h)

end

/-- what `highest_mapped_tbl` writes into the lower indices -/
def vmax (pf : PagingForm) (i : Nat) : Nat := (tableSize pf i).getD 1 - 1

theorem vmax_eq {pf : PagingForm} (hpf : XF pf) {i : Nat} (hi : i < pf.fieldsz.length) :
    vmax pf i = 2^(pf.fieldsz.getD i 0) - 1 := by
  unfold vmax
  by_cases h0 : i = 0
  · subst h0; rw [xf_tableSize0 hpf, xf_fld0 hpf]; rfl
  · rw [xf_tableSize hpf hi (by omega), xf_fld hpf hi (by omega)]; rfl

theorem not_bad {pf : PagingForm} (hpf : XF pf) (m : Nat) (hm : m ≤ pf.fieldsz.length) :
    (List.range m).any (fun i => (tableSize pf i).isNone) = false := by
  rw [List.any_eq_false]
  intro i hi
  rw [List.mem_range] at hi
  by_cases h0 : i = 0
  · subst h0; rw [xf_tableSize0 hpf]; simp
  · rw [xf_tableSize hpf (by omega) (by omega)]; simp

theorem entry_rangeD {addr x p : Nat} (h1 : addr / 2^p * 2^p ≤ x) (h2 : x ≤ addr) :
    x / 2^p = addr / 2^p := by
  have hpos : 0 < (2:Nat)^p := Nat.two_pow_pos p
  rw [div_range hpos]
  exact ⟨h1, Nat.lt_of_le_of_lt h2 ((div_range hpos).1 rfl).2⟩

theorem prev_bot (addr p : Nat) (h : addr / 2^p % 512 = 0) :
    addr / 2^p * 2^p = addr / 2^(p+9) * 2^(p+9) := by
  rw [Nat.pow_add, ← Nat.div_div_eq_div_mul]
  generalize addr / 2^p = q at *
  have : q = q / 2^9 * 2^9 := by
    show q = q / 512 * 512
    omega
  rw [Nat.mul_comm (2^p) (2^9), ← Nat.mul_assoc, ← this]

/-- `cont` of `hmLoop` (`goto next` in C) -/
def contD (pf : PagingForm) (loop : Step → Nat → Res) (s : Step) (a' : Nat) : Res :=
  let bad := (List.range (s.remain - 1)).any (fun i => (tableSize pf i).isNone)
  if bad then .undef
  else
    let my1 := fillLow s (vmax pf)
    let i := s.remain - 1
    let cur := idxAt my1 i
    let my2 := setIdx my1 i ((cur + W - 1) % W)
    if cur = 0 then .done .notpresent a' s else loop my2 a'

theorem hmLoop_succ (sf : StepFn) (pf : PagingForm) (limit tblmask : Nat) (rec : Step → Nat → Res)
    (k : Nat) (s : Step) (addr : Nat) :
    hmLoop sf pf limit tblmask rec (k+1) s s addr =
      if addr ≥ limit then
        match sf s with
        | .ok s1 =>
          if s1.remain ≤ 1 then
            match sf s1 with
            | .ok s2 => .done .ok addr s2
            | .error e => .done e addr s1
          else
            onRec (contD pf (fun my a => hmLoop sf pf limit tblmask rec k my my a) s)
              (rec s1 addr)
        | .error .notpresent =>
          contD pf (fun my a => hmLoop sf pf limit tblmask rec k my my a) s
            ((andNot addr tblmask + W - 1) % W)
        | .error e => .done e addr s
      else .done .notpresent addr s := rfl

section
variable (c : ScanCfg) (hpf : XF c.pf)
include hpf

theorem at_prev {addr r p q : Nat} {s : Step} (h : At c addr r s)
    (h2 : 2 ≤ r) (hn : r ≤ c.n) (hc : 0 < idxAt s (r-1)) (hp : c.sb (r-1) = p)
    (hq : addr / 2^p = q) :
    At c (q * 2^p - 1) r (setIdx (fillLow s (vmax c.pf)) (r-1) (idxAt s (r-1) - 1)) ∧
    (q * 2^p - 1) / 2^(c.sb r) = addr / 2^(c.sb r) ∧ 1 ≤ q * 2^p ∧
    (q * 2^p - 1) % 4096 = 4095 ∧ (q * 2^p - 1) / 2^p % 512 = q % 512 - 1 := by
  have hn' : r ≤ c.pf.fieldsz.length := hn
  have hr : r ≤ 9 ∧ r - 1 < c.pf.fieldsz.length ∧ 1 ≤ r - 1 := by have := xf_len hpf; omega
  obtain ⟨hsb, h12, h64⟩ := sb_succ c hpf h2 hn
  have hcur := idx_cur c hpf h h2 hn
  rw [hp] at hsb h12 hcur
  rw [hq] at hcur
  obtain ⟨hd1, hd2, hq1⟩ := pred_digit (hcur ▸ hc)
  have hE := Nat.two_pow_pos p
  have heE : (q * 2^p - 1) / 2^p = q - 1 := (pred_mul_divmod hq1 hE).1
  have hT : (q * 2^p - 1) / 2^(c.sb r) = addr / 2^(c.sb r) := by
    rw [hsb, Nat.pow_add, ← Nat.div_div_eq_div_mul, ← Nat.div_div_eq_div_mul, heE, hq]
    exact hd1
  have h4095 : (q * 2^p - 1) % 4096 = 4095 := by
    have := idx_low_ones q p 0 12 hq1 h12
    rwa [Nat.pow_zero, Nat.div_one] at this
  refine ⟨h.move h2 hr.1 hT ?_ fun i hi => ?_, hT, Nat.mul_pos hq1 hE, h4095,
    by rw [heE]; exact hd2.symm⟩
  · rw [hp, heE, xf_fld hpf hr.2.1 hr.2.2, hcur]
    exact hd2
  · have hs : spanBits c.pf.fieldsz (i+1) ≤ p := hp ▸ span_mono _ hi
    rw [span_succ] at hs
    rw [vmax_eq hpf (Nat.lt_trans hi hr.2.1)]
    exact (idx_low_ones q p _ _ hq1 hs).symm

theorem cont_postD {Q : Nat → Prop} {Stop : XStatus → Nat → Step → Prop}
    {limit addr r : Nat} {s : Step} (h : At c addr r s) (h2 : 2 ≤ r) (hn : r ≤ c.n)
    (hal : limit ≤ addr) (haW : addr < W) {k : Nat} (hk : addr / 2^(c.sb (r-1)) % 512 < k + 1)
    {loop : Step → Nat → Res}
    (hloop : ∀ my a, At c a r my → limit ≤ a → a < W → a % 4096 = 4095 →
      a / 2^(c.sb (r-1)) % 512 < k → PostD Q Stop limit (2^(c.sb r)) a (loop my a))
    (hlt : 1 ≤ k → ∀ my a, a < limit → loop my a = .done .notpresent a my)
    (a' : Nat) (s' : Step)
    (hnp : PostD Q Stop limit (2^(c.sb (r-1))) addr (.done .notpresent a' s')) :
    PostD Q Stop limit (2^(c.sb r)) addr (contD c.pf loop s a') := by
  obtain ⟨e, ha', hQ, he⟩ := postG_np.1 hnp
  have hsb := (sb_succ c hpf h2 hn).1
  have hcur := idx_cur c hpf h h2 hn
  have hfl : idxAt (fillLow s (vmax c.pf)) (r - 1) = idxAt s (r-1) := by
    rw [idxAt_fillLow, h.rem]; simp
  unfold contD
  rw [h.rem, not_bad hpf (r-1) (Nat.le_trans (Nat.sub_le _ _) hn)]
  simp only [Bool.false_eq_true, if_false, hfl]
  by_cases hz : idxAt s (r-1) = 0
  · rw [if_pos hz]
    refine postG_np.2 ⟨e, ha', hQ, he.imp_left fun he => ?_⟩
    rw [he, hsb]
    exact prev_bot addr _ (by rw [← hcur]; exact hz)
  · have hi1 : 0 < idxAt s (r-1) := Nat.pos_of_ne_zero hz
    have hik : idxAt s (r-1) ≤ k := by rw [hcur]; exact Nat.le_of_lt_succ hk
    have hiW : idxAt s (r-1) < W := by
      rw [hcur]
      exact Nat.lt_trans (Nat.mod_lt _ (by decide)) (by decide)
    rw [if_neg hz, show (idxAt s (r-1) + W - 1) % W = idxAt s (r-1) - 1 from predW_eq hi1 hiW]
    obtain ⟨hat, hT, h1e, h4095, hdig⟩ := at_prev c hpf h h2 hn hi1 rfl rfl
    have hle : addr / 2^(c.sb (r-1)) * 2^(c.sb (r-1)) ≤ addr :=
      ((div_range (Nat.two_pow_pos _)).1 rfl).1
    have h0 : 0 < e := by
      rcases he with he | he
      · rw [he]; exact h1e
      · exact he.2
    by_cases hel : limit < e
    · -- the previous entry ends inside the interval: the loop goes on there
      have he' := he.resolve_right (fun hh => absurd hel (Nat.not_lt.2 hh.1))
      subst he'
      rw [ha', predW_eq h0 (Nat.lt_of_le_of_lt hle haW)]
      exact postD_extend
        (hloop _ _ hat (Nat.le_sub_one_of_lt hel)
          (Nat.lt_of_le_of_lt (Nat.le_trans (Nat.sub_le _ _) hle) haW) h4095
          (by rw [hdig, ← hcur]; exact Nat.sub_one_lt_of_le hi1 hik))
        hT (Nat.le_trans (Nat.sub_le _ _) hle)
        (fun x hx1 hx2 hx3 => hQ x (Nat.le_of_pred_lt hx1) hx2 hx3)
    · -- at or below `limit` the loop ends at once
      have hel' : e ≤ limit := Nat.le_of_not_lt hel
      have hae : a' < limit := by
        rw [ha', predW_eq h0 (Nat.lt_of_le_of_lt (Nat.le_trans hel' hal) haW)]
        exact Nat.sub_one_lt_of_le h0 hel'
      rw [hlt (Nat.lt_of_lt_of_le hi1 hik) _ a' hae]
      exact postG_np.2 ⟨e, ha', hQ, Or.inr ⟨hel', h0⟩⟩

variable (hmask : c.pteMask < W) (hmemok : ∀ as a sz, c.mem as a sz ≠ .error .ok) {limit : Nat}
include hmask hmemok

theorem hmTbl_post :
    ∀ d r s addr, At c addr r s → 2 ≤ r → r ≤ c.n → r ≤ d → limit ≤ addr → addr < W →
      addr % 4096 = 4095 →
      PostD (NotPresent (rootDescent c)) (StopAt 4095 (rootDescent c)) limit (2^(c.sb r)) addr
        (hmTbl c.sf c.pf limit d s addr) := by
  intro d
  induction d with
  | zero => intro r s addr _ h2 _ hd; omega
  | succ d ih =>
    intro r s addr h h2 hn hd hal haW h4095
    obtain ⟨hsz, hm⟩ := tbl_consts c hpf h2 hn
    have hne : ¬ r = 0 := by omega
    rw [hmTbl]
    simp only [h.rem, hne, if_false, hsz, hm]
    suffices hloop : ∀ k s addr, At c addr r s → limit ≤ addr → addr < W → addr % 4096 = 4095 →
        addr / 2^(c.sb (r-1)) % 512 < k →
        PostD (NotPresent (rootDescent c)) (StopAt 4095 (rootDescent c)) limit (2^(c.sb r)) addr
          (hmLoop c.sf c.pf limit (2^(c.sb (r-1)) - 1) (hmTbl c.sf c.pf limit d) k s s addr) from
      hloop 513 s addr h hal haW h4095 (Nat.lt_of_lt_of_le (Nat.mod_lt _ (by decide)) (by decide))
    intro k
    induction k with
    | zero => intro s addr _ _ _ _ hk; omega
    | succ k ihk =>
      intro s addr h hal haW h4095 hk
      rw [hmLoop_succ, if_pos hal]
      have h64 := (sb_succ c hpf h2 hn).2.2
      have hsb := (sb_succ c hpf h2 hn).1
      have hcont := cont_postD c hpf h h2 hn hal haW hk ihk
        (fun hk1 my a hla => by
          cases k with
          | zero => cases hk1
          | succ k => rw [hmLoop_succ, if_neg (Nat.not_le.2 hla)])
      rcases stepCase c hpf hmask hmemok addr r s h h2 hn with
        ⟨e, hsf, hne, hall⟩ | ⟨s1, s2, h1, hr, h2', _, hva⟩ | ⟨s1, h1, hat, hr, hrem⟩
      · rw [hsf]
        cases e with
        | ok => exact absurd rfl hne
        | notpresent =>
          have hp64 : c.sb (r-1) ≤ 64 := Nat.le_trans (Nat.le_add_right _ 9) (hsb ▸ h64)
          exact hcont _ s (postG_np.2
            ⟨_, by rw [predW, andNot, and_not_mask addr _ haW hp64],
              fun x hx1 hx2 _ => hall x (entry_rangeD hx1 hx2), Or.inl rfl⟩)
        | _ =>
          exact postD_here (by decide) hal (hall addr rfl)
      · rw [h1]
        simp only [hr, Nat.le_refl, if_true, h2']
        exact postD_here (by decide) hal (And.intro h4095 hva)
      · rw [h1]
        simp only [Nat.not_le.2 hrem, if_false]
        exact postD_onRec (ih (r-1) s1 addr hat (Nat.le_sub_one_of_lt hr)
          (Nat.le_trans (Nat.sub_le _ _) hn) (Nat.sub_le_of_le_add hd) hal haW h4095) hcont

end

end Kdf.Lemmas.Scan
