import Kdf.Lemmas.FlatDefs
/-! `flatmap_pread_flat` / `flatmap_get_chunk_flat` compute the point-wise value
through the segment map. -/
namespace Kdf.Lemmas.Flat
open Kdf.Model.Map Kdf.Model.Flat Kdf.Lemmas.Map

theorem map_range_split {α} (g : Nat → α) (pos len k : Nat) (hk : k ≤ len) :
    (List.range len).map (fun i => g (pos + i)) =
      (List.range k).map (fun i => g (pos + i)) ++ (List.range (len - k)).map (fun i => g (pos + k + i)) := by
  conv => lhs; rw [← Nat.add_sub_of_le hk, List.range_add, List.map_append, List.map_map]
  simp only [Function.comp_def, Nat.add_assoc]

theorem map_range_const {α} {g : Nat → α} {n : Nat} {c : α} (h : ∀ i, i < n → g i = c) :
    (List.range n).map g = List.replicate n c := by
  apply List.ext_getElem
  · simp
  · intro i h1 h2
    simp at h1
    simp [h _ h1]

theorem map_range_congr {α} {g g' : Nat → α} {n : Nat} (h : ∀ i, i < n → g i = g' i) :
    (List.range n).map g = (List.range n).map g' :=
  List.map_congr_left fun i hi => h i (List.mem_range.mp hi)

variable {m : Map} {offs : List Int} {f : File}

theorem viaMap_none {p : Nat} (h : den m 0 p = NONE) : viaMap m offs f p = 0 := by
  unfold viaMap; exact if_pos h

theorem viaMap_some {p : Nat} {o : Int}
    (h : den m 0 p ≠ NONE) (ho : offAt offs (den m 0 p) = some o) :
    viaMap m offs f p = f ((p : Int) + o).toNat % 256 := by
  unfold viaMap; simp only [if_neg h, ho]

/-- `rs`, laid out from `start`, is the part of `m` from `start` to the end of the address space -/
structure Rest (m rs : Map) (start : Nat) : Prop where
  wf : m = [] ∨ start + total rs = W
  den_eq : ∀ p, start ≤ p → den m 0 p = den rs start p
  sub : ∀ r ∈ rs, r ∈ m

theorem Rest.refl (h : WF m) : Rest m m 0 :=
  ⟨h.imp_right fun h => by omega, fun _ _ => rfl, fun _ h => h⟩

theorem Rest.tot {rs : Map} {r : Range} {start : Nat} (h : Rest m (r :: rs) start) :
    start + (r.endoff + 1 + total rs) = W := by
  rcases h.wf with hm | ht
  · have hr := h.sub r List.mem_cons_self
    rw [hm] at hr
    cases hr
  · exact ht

theorem Rest.next {rs : Map} {r : Range} {start : Nat} (h : Rest m (r :: rs) start) :
    Rest m rs (start + r.endoff + 1) := by
  have ht := h.tot
  refine ⟨.inr (by omega), fun p hp => ?_, fun x hx => h.sub x (List.mem_cons_of_mem _ hx)⟩
  rw [h.den_eq p (by omega), den, if_neg (by omega)]

theorem Rest.den_head {rs : Map} {r : Range} {start p : Nat} (h : Rest m (r :: rs) start)
    (h1 : start ≤ p) (h2 : p ≤ start + r.endoff) : den m 0 p = r.meth := by
  rw [h.den_eq p h1, den, if_pos h2]

theorem Rest.read_head {rs : Map} {r : Range} {start pos n : Nat} (h : Rest m (r :: rs) start)
    (hm : r.meth ≠ NONE) (hs : start ≤ pos) (hp : pos ≤ start + r.endoff)
    (hn : pos + n ≤ start + r.endoff + 1) (hv : ValidOn m offs pos 1) :
    ∃ o, offAt offs r.meth = some o ∧ ¬ (pos : Int) + o < 0 ∧
      readFile f ((pos : Int) + o).toNat n = (List.range n).map fun i => viaMap m offs f (pos + i) := by
  have h0 : den m 0 pos = r.meth := h.den_head hs hp
  obtain ⟨o, ho, hfp⟩ := hv pos (Nat.le_refl pos) (Nat.lt_succ_self pos) (by rw [h0]; exact hm)
  rw [h0] at ho
  refine ⟨o, ho, Int.not_lt.mpr hfp, map_range_congr fun i hi => ?_⟩
  have hi := h.den_head (Nat.le_trans hs (Nat.le_add_right pos i)) (by omega : pos + i ≤ _)
  rw [viaMap_some (by rw [hi]; exact hm) (by rw [hi]; exact ho), Int.natCast_add,
    Int.add_right_comm, Int.toNat_add_nat hfp]

theorem skip_rest : ∀ {rs0 rs : Map} {start off off' : Nat},
    Rest m rs0 start → skip rs0 off = (rs, off') →
    ∃ start', Rest m rs start' ∧ start + off = start' + off' ∧
      ∀ r ∈ rs.head?, off' ≤ r.endoff := by
  intro rs0
  induction rs0 with
  | nil =>
    intro rs start off off' h hs
    cases hs
    exact ⟨start, h, rfl, nofun⟩
  | cons x xs ih =>
    intro rs start off off' h hs
    by_cases hgt : off > x.endoff
    · rw [skip, if_pos hgt] at hs
      obtain ⟨start', h1, h2, h3⟩ := ih h.next hs
      exact ⟨start', h1, by omega, h3⟩
    · rw [skip, if_neg hgt] at hs
      cases hs
      refine ⟨start, h, rfl, fun r e => ?_⟩
      cases e
      omega

/-- Loop invariant: `pos = start + off` lies in the first range of the rest; after a last segment
shorter than its range the recursive call has `len = 0` and a `pos` that no longer matches. -/
theorem preadLoop_via :
    ∀ (rs : Map) (start off pos len : Nat),
      Rest m rs start → (len ≠ 0 → pos = start + off) →
      (∀ r ∈ rs.head?, off ≤ r.endoff) → pos + len ≤ W → NoFullSeg m →
      ValidOn m offs pos len →
      preadLoop offs f rs off pos len
        = .ok ((List.range len).map fun i => viaMap m offs f (pos + i)) := by
  intro rs
  induction rs with
  | nil =>
    intro start off pos len hr hpos _ _ _ _
    simp only [preadLoop]
    rw [map_range_const (c := 0)]
    intro i hi
    have hsp : start ≤ pos := hpos (Nat.ne_of_gt (Nat.zero_lt_of_lt hi)) ▸ Nat.le_add_right start off
    exact viaMap_none (hr.den_eq _ (Nat.le_trans hsp (Nat.le_add_right pos i)))
  | cons r rs ih =>
    intro start off pos len hr hpos hoff hlen hfull hv
    by_cases hl0 : len = 0
    · subst hl0; simp [preadLoop]
    have hpos := hpos hl0
    have hoff := hoff r rfl
    have htot := hr.tot
    have hsp : start ≤ pos := hpos ▸ Nat.le_add_right start off
    have hhead : ∀ i, pos + i ≤ start + r.endoff → den m 0 (pos + i) = r.meth :=
      fun i hi => hr.den_head (Nat.le_trans hsp (Nat.le_add_right pos i)) hi
    unfold preadLoop
    simp only [hl0, if_false]
    by_cases hwrap : r.endoff + 1 = W ∧ off = 0
    · -- the range spans everything: it is a hole and `seglen = 0`
      obtain ⟨hW, ho⟩ := hwrap
      have hmeth : r.meth = NONE := hfull r (hr.sub r List.mem_cons_self) hW
      have hrs : rs = [] := by
        cases rs with
        | nil => rfl
        | cons x xs => rw [total_cons] at htot; omega
      subst hrs
      have hs0 : (r.endoff + 1 + W - off) % W = 0 := by
        rw [ho, hW]; simp
      rw [hs0]
      simp only [hmeth, ne_eq, not_true, if_false]
      simp only [Nat.not_lt_zero, if_false, preadLoop, Nat.sub_zero, List.replicate_zero, List.nil_append]
      congr 1
      symm
      exact map_range_const fun i hi => viaMap_none (by rw [hhead i (by omega), hmeth])
    · rw [add_sub_mod_of_sub_lt (Nat.le_succ_of_le hoff) (by omega)]
      generalize hsl : (if r.endoff + 1 - off > len then len else r.endoff + 1 - off) = seglen
      have hsl1 : seglen ≤ len ∧ 0 < seglen ∧ seglen ≤ r.endoff + 1 - off ∧
          (seglen < len → seglen = r.endoff + 1 - off) := by
        split at hsl <;> omega
      rw [ih (start + r.endoff + 1) 0 (pos + seglen) (len - seglen) hr.next
        (by omega) (fun _ _ => Nat.zero_le _) (by omega) hfull
        (fun p hp1 hp2 => hv p (Nat.le_trans (Nat.le_add_right pos seglen) hp1) (by omega)),
        map_range_split (viaMap m offs f) pos len seglen hsl1.1]
      by_cases hm : r.meth = NONE
      · simp only [hm, ne_eq, not_true, if_false]
        congr 2
        symm
        exact map_range_const fun i hi => viaMap_none (by rw [hhead i (by omega), hm])
      · simp only [ne_eq, hm, not_false_eq_true, if_true]
        obtain ⟨o, ho, hfp, hrd⟩ := hr.read_head (f := f) (n := seglen) hm hsp (by omega) (by omega)
          fun p h1 h2 => hv p h1 (by omega)
        rw [ho]
        simp only [if_neg hfp, hrd]

/-- For a well-formed map, `flatmap_pread_flat` delivers at each position the value that the
map and the offset array assign to it; a hole (`NONE`) reads as zero. -/
theorem preadFlat_via (m : Map) (offs : List Int) (f : File) (pos len : Nat)
    (hwf : WF m) (hfull : NoFullSeg m) (hlen : pos + len ≤ W) (hv : ValidOn m offs pos len) :
    preadFlat m offs f pos len = .ok ((List.range len).map fun i => viaMap m offs f (pos + i)) := by
  unfold preadFlat
  cases hsk : skip m pos with
  | mk rs off' =>
    obtain ⟨start', hr, hso, hoff⟩ := skip_rest (Rest.refl hwf) hsk
    exact preadLoop_via rs start' off' pos len hr (by intro; omega) hoff hlen hfull hv

/-- `flatmap_get_chunk_flat` delivers the same bytes, whichever branch it takes.
Validity is also required at `pos` itself when `len = 0`: the C code indexes
`offs[]` before it looks at `len`. -/
theorem getChunkFlat_via (m : Map) (offs : List Int) (f : File) (pos len : Nat)
    (hwf : WF m) (hfull : NoFullSeg m) (hlen : pos + len ≤ W)
    (hv : ValidOn m offs pos (max len 1)) :
    ∃ b, getChunkFlat m offs f pos len = .ok (b, (List.range len).map fun i => viaMap m offs f (pos + i)) := by
  have hpf := preadFlat_via m offs f pos len hwf hfull hlen fun p hp1 hp2 => hv p hp1 (by omega)
  unfold getChunkFlat
  cases hsk : skip m pos with
  | mk rs off' =>
    cases rs with
    | nil =>
      simp only
      rw [hpf]
      exact ⟨false, rfl⟩
    | cons r rs' =>
      simp only
      by_cases hc : r.meth ≠ NONE ∧ len ≤ (r.endoff + 1 + W - off') % W
      · rw [if_pos hc]
        obtain ⟨hm, hl⟩ := hc
        obtain ⟨start', hr, hso, hoff⟩ := skip_rest (Rest.refl hwf) hsk
        have hoff := hoff r rfl
        have ht := hr.tot
        have hne : r.endoff + 1 ≠ W := fun h => hm (hfull r (hr.sub r List.mem_cons_self) h)
        rw [add_sub_mod_of_sub_lt (Nat.le_succ_of_le hoff) (by omega)] at hl
        obtain ⟨o, ho, hfp, hrd⟩ := hr.read_head (f := f) (n := len) hm (by omega) (by omega) (by omega)
          fun p h1 h2 => hv p h1 (by omega)
        rw [ho]
        simp only [if_neg hfp]
        exact ⟨true, by rw [hrd]⟩
      · rw [if_neg hc, hpf]
        exact ⟨false, rfl⟩

end Kdf.Lemmas.Flat
