import Kdf.Lemmas.CacheAbs
/-!
The internal primitives of the page-cache model (C06): `evictEntry`, `unusedDonor`,
`reclaimData`, `ghostHit`, `missed`.
-/
namespace Kdf.Lemmas.Cache
open Kdf.Model.Cache Kdf.Lemmas.CacheList

theorem bind_eq_ok {ε α β : Type} {x : Except ε α} {f : α → Except ε β} {b : β} :
    (x >>= f) = .ok b ↔ ∃ a, x = .ok a ∧ f a = .ok b := by
  cases x <;> simp [bind, Except.bind]

theorem evictEntry_spec {c : Cache} {bias : Nat} {c' : Cache} {z : Nat}
    (he : evictEntry c bias = .ok (c', z)) :
    c.refcnt z = 0 ∧
      ((z ∈ c.B ∧ c' = { c with B := c.B.erase z, GB := c.GB ++ [z] }) ∨
       (z ∈ c.P ∧ c' = { c with P := c.P.erase z, GP := z :: c.GP })) := by
  unfold evictEntry at he
  simp only [] at he
  split at he
  · split at he
    · rename_i z' hz'
      simp only [Except.ok.injEq, Prod.mk.injEq] at he
      obtain ⟨rfl, rfl⟩ := he
      have hm : z' ∈ zeroRef c c.B := List.mem_of_mem_head? (by simp [hz'])
      simp only [zeroRef, List.mem_filter, decide_eq_true_eq] at hm
      exact ⟨hm.2, Or.inl ⟨hm.1, rfl⟩⟩
    · cases he
  · split at he
    · rename_i z' hz'
      simp only [Except.ok.injEq, Prod.mk.injEq] at he
      obtain ⟨rfl, rfl⟩ := he
      have hm : z' ∈ zeroRef c c.P := List.mem_of_getLast? hz'
      simp only [zeroRef, List.mem_filter, decide_eq_true_eq] at hm
      exact ⟨hm.2, Or.inr ⟨hm.1, rfl⟩⟩
    · cases he

theorem evictEntry_ok {c : Cache} (bias : Nat) (h : ∃ i ∈ c.B ++ c.P, c.refcnt i = 0) :
    ∃ c' z, evictEntry c bias = .ok (c', z) := by
  obtain ⟨i, hi, hr⟩ := h
  unfold evictEntry
  simp only []
  split
  · rename_i hc
    cases hzb : (zeroRef c c.B).head? with
    | some z => exact ⟨_, _, rfl⟩
    | none =>
      rw [List.head?_eq_none_iff] at hzb
      simp [hzb] at hc
  · rename_i hc
    cases hzp : (zeroRef c c.P).getLast? with
    | some z => exact ⟨_, _, rfl⟩
    | none =>
      exfalso
      rw [List.getLast?_eq_none_iff] at hzp
      rw [hzp] at hc
      simp only [List.length_nil, ne_eq, true_or, and_true, Decidable.not_not,
        List.length_eq_zero_iff] at hc
      rw [List.mem_append] at hi
      rcases hi with hi | hi
      · have : i ∈ zeroRef c c.B := by simp [zeroRef, List.mem_filter, hi, hr]
        rw [hc] at this; cases this
      · have : i ∈ zeroRef c c.P := by simp [zeroRef, List.mem_filter, hi, hr]
        rw [hzp] at this; cases this

theorem evict_strip {c : Cache} {hl fl : List Nat} {st : Prop} (hlen : c.ents.length = 2 * c.cap)
    (h : InvH (abs c) hl fl st) {bias : Nat} {c' : Cache} {z : Nat}
    (he : evictEntry c bias = .ok (c', z)) :
    ∃ b, c'.dataOf z = some b ∧ z < c'.ents.length ∧ c'.ents = c.ents ∧
      c'.cap = c.cap ∧ z ∈ c.B ++ c.P ∧
      InvH ((abs c').setEnt z { c'.ent z with data := none }) (b :: hl) fl st ∧
      FrameS (abs c) ((abs c').setEnt z { c'.ent z with data := none }) ∧
      FrameG (abs c) ((abs c').setEnt z { c'.ent z with data := none }) := by
  obtain ⟨hr, hz⟩ := evictEntry_spec he
  have hents : c'.ents = c.ents := by rcases hz with ⟨-, rfl⟩ | ⟨-, rfl⟩ <;> rfl
  obtain ⟨b, hb, hzc, hi⟩ := h.evict (z := z) (t := abs c') hr
    (hz.imp (fun ⟨hz, hc⟩ => ⟨hz, hc ▸ rfl⟩) (fun ⟨hz, hc⟩ => ⟨hz, hc ▸ rfl⟩))
  have hent : c'.ent z = c.ent z := by simp [Cache.ent, hents]
  refine ⟨b, by simpa [Cache.dataOf, hent] using hb, ?_, hents, ?_, hzc, hent ▸ hi⟩
  · rw [hents, hlen]; exact h.lt_of_live (List.mem_append_left _ hzc)
  · rcases hz with ⟨-, rfl⟩ | ⟨-, rfl⟩ <;> rfl

theorem takeWhile_nil_of_all_false {p : Nat → Bool} {l : List Nat} (h : ∀ i ∈ l, p i = false) :
    l.takeWhile p = [] := by
  cases l with
  | nil => rfl
  | cons a l => simp [h a (by simp)]

theorem unusedDonor_spec (c : Cache) (u1 u2 : List Nat) (d : Nat)
    (hu1 : ∀ i ∈ u1, (c.ent i).data = none) (hu2 : ∀ i ∈ d :: u2, (c.ent i).data.isSome = true) :
    unusedDonor c (u1 ++ d :: u2) = some d := by
  unfold unusedDonor
  have hr : (u1 ++ d :: u2).reverse = u2.reverse ++ d :: u1.reverse := by simp
  rw [hr]
  have hd : (c.dataOf d).isSome = true := hu2 d (by simp)
  have htw : u1.reverse.takeWhile (fun i => (c.dataOf i).isSome) = [] :=
    takeWhile_nil_of_all_false (fun i hi => by
      have := hu1 i (by simpa using hi)
      simp [Cache.dataOf, this])
  cases hu2r : u2.reverse with
  | nil =>
    simp [htw]
  | cons l a' =>
    have ha' : ∀ i ∈ a', (c.dataOf i).isSome = true := by
      intro i hi
      have : i ∈ u2.reverse := by rw [hu2r]; simp [hi]
      exact hu2 i (by simp [List.mem_reverse.1 this])
    simp only [List.cons_append]
    rw [List.takeWhile_append_of_pos (by simpa using ha')]
    simp only [List.takeWhile_cons, hd, htw, if_true]
    rw [show l :: (a' ++ [d]) = (l :: a') ++ [d] from rfl, List.getLast?_append]
    rfl

theorem reclaimData_spec {c : Cache} {st : Prop} (h : InvS c st)
    (hp : c.pinned + c.F.length < c.cap) :
    ∃ c1 b, reclaimData c = .ok (c1, some b) ∧ c1.ents.length = c.ents.length ∧ c1.cap = c.cap ∧
      InvH (abs c1) [b] [] st ∧ FrameS (abs c) (abs c1) ∧ FrameG (abs c) (abs c1) := by
  obtain ⟨hlen, hI⟩ := h
  obtain ⟨u1, u2, hU, hu1, hu2⟩ := hI.u_shape
  have hcnt := hI.count hU hu1 hu2
  simp only [abs_U, abs_ent, abs_B, abs_P, abs_F, abs_cap] at hU hu1 hu2 hcnt
  unfold reclaimData
  split
  · rename_i hlt
    cases u2 with
    | nil => simp at hcnt; omega
    | cons d u2 =>
      rw [hU, unusedDonor_spec c u1 u2 d hu1 hu2]
      obtain ⟨b, hb, hI'⟩ := InvH.donor hI (d := d) hU hu1 hu2
      have hdU : d ∈ (abs c).U ++ [] := by simp [hU]
      have hdlt : d < c.ents.length := by
        rw [hlen]; exact hI.lt_of_mem (by simp [hU])
      refine ⟨c.modEnt d (fun e => { e with data := none }), b, ?_, by simp, rfl, ?_⟩
      · simp only [Cache.dataOf]; rw [show c.ent d = (abs c).ent d from rfl, hb]
      · rw [abs_modEnt c _ hdlt]
        exact ⟨hI', .setEnt_other ((hI.excl d).idle_live hdU) _,
          .of_away (.setEnt _ d _) rfl ((hI.excl d).idle_ghost hdU)⟩
  · rename_i hge
    have hz : ∃ i ∈ c.B ++ c.P, c.refcnt i = 0 := exists_zero_ref c (by omega)
    obtain ⟨c', z, hev⟩ := evictEntry_ok 0 hz
    obtain ⟨b, hb, hzlt, hents', hcap', -, hI', hF', hG'⟩ := evict_strip hlen hI hev
    have hlen' : c'.ents.length = c.ents.length := by rw [hents']
    have habs := abs_modEnt c' (fun e => { e with data := none }) hzlt
    refine ⟨c'.modEnt z (fun e => { e with data := none }), b, ?_, by simp [hlen'], hcap', ?_, ?_, ?_⟩
    · simp [hev, bind, Except.bind, hb]
    · rw [habs]; exact hI'
    · rw [habs]; exact hF'
    · rw [habs]; exact hG'

/-- `c2` is the abstract state `s` (in which `e` is on no list and owns a buffer) with `e`
appended to the in-flight list and its entry replaced by `v` -/
structure PreLaunch (st : Prop) (c2 : Cache) (e : Nat) (v : Entry) (s : St) : Prop where
  len : c2.ents.length = 2 * s.cap
  inv : InvH s [] [e] st
  data : (s.ent e).data.isSome = true
  vdata : v.data = (s.ent e).data
  abs_eq : abs c2 = St.setEnt { s with F := s.F ++ [e] } e v

theorem St.setEnt_setEnt (s : St) (i : Nat) (v w : Entry) : (s.setEnt i v).setEnt i w = s.setEnt i w := by
  unfold St.setEnt
  simp only [St.mk.injEq, true_and, and_true]
  funext j
  by_cases h : j = i <;> simp [h]

theorem PreLaunch.of_ghost {t : Cache} {st : Prop} {b e : Nat} (hlen : t.ents.length = 2 * t.cap)
    (hfl : InvH (abs t) [b] [e] st) (hd : (t.ent e).data = none) (f : Entry → Entry)
    (hf : ∀ x, (f x).data = x.data) :
    PreLaunch st { t.modEnt e (fun x => f { x with data := some b }) with F := t.F ++ [e] } e
        (f { t.ent e with data := some b }) ((abs t).setEnt e { t.ent e with data := some b }) ∧
      FrameS (abs t) ((abs t).setEnt e { t.ent e with data := some b }) := by
  have helt : e < t.ents.length := by rw [hlen]; exact hfl.lt_of_mem (by simp)
  refine ⟨⟨by simpa using hlen, hfl.fill hd, by simp, by simp [hf], ?_⟩,
    .setEnt_other ((hfl.excl e).idle_live (by simp)) _⟩
  refine (abs_modEnt (c := { t with F := t.F ++ [e] }) _ helt).trans ?_
  unfold St.setEnt
  simp only [abs, St.mk.injEq, true_and, and_true]
  funext j
  by_cases hj : j = e <;> simp [hj, Cache.ent]

theorem ghostHit_spec {c : Cache} {st : Prop} (h : InvS c st) (hp : c.pinned + c.F.length < c.cap)
    {e : Nat} (fromGP : Bool) (he : if fromGP then e ∈ c.GP else e ∈ c.GB) :
    ∃ c2 v s, ghostHit c e fromGP = .ok c2 ∧ PreLaunch st c2 e v s ∧ FrameS (abs c) s ∧
      v.key = c.key e ∧ v.state = .precious := by
  obtain ⟨c1, b, hrd, hlen1, hcap1, hI1, hF1, hG1⟩ := reclaimData_spec h hp
  obtain ⟨hlen, hI⟩ := h
  have heg : e ∈ c.GB ++ c.GP := by cases fromGP <;> simp_all
  have hl1 : c1.ents.length = 2 * c1.cap := by rw [hlen1, hcap1]; exact hlen
  have hent : c1.ent e = c.ent e := hG1.ent_g e heg
  have hdata : (c1.ent e).data = none := by
    rw [hent]; exact hI.ghost_nodata e heg
  have hgh : ∀ c2, (if fromGP then { c1.modEnt e (fun x => { x with data := some b, state := .precious }) with
        GP := c1.GP.erase e, F := c1.F ++ [e] }
      else { c1.modEnt e (fun x => { x with data := some b, state := .precious }) with
        GB := c1.GB.erase e, F := c1.F ++ [e] }) = c2 → ghostHit c e fromGP = .ok c2 := by
    rintro _ rfl
    unfold ghostHit
    simp only [hrd, bind, Except.bind]
    rfl
  have hk : ({ c1.ent e with data := some b, state := .precious } : Entry).key = c.key e := by
    simp [hent, Cache.key]
  cases fromGP with
  | true =>
    obtain ⟨g1, g2, _, hG, hGe⟩ := List.exists_erase_eq (hG1.gp e he)
    simp only [abs_GP] at hGe
    obtain ⟨hpl, hfr⟩ := PreLaunch.of_ghost (t := { c1 with GP := g1 ++ g2 }) hl1 (hI1.floatG (.inr ⟨hG, rfl⟩)) hdata
      (fun x => { x with state := .precious }) (fun _ => rfl)
    exact ⟨_, _, _, hgh _ (by rw [if_pos rfl, hGe]; rfl), hpl,
      hF1.trans (hfr.congr_left rfl rfl rfl rfl rfl), hk, rfl⟩
  | false =>
    obtain ⟨g1, g2, _, hG, hGe⟩ := List.exists_erase_eq (hG1.gb e he)
    simp only [abs_GB] at hGe
    obtain ⟨hpl, hfr⟩ := PreLaunch.of_ghost (t := { c1 with GB := g1 ++ g2 }) hl1 (hI1.floatG (.inl ⟨hG, rfl⟩)) hdata
      (fun x => { x with state := .precious }) (fun _ => rfl)
    exact ⟨_, _, _, hgh _ (by rw [if_neg Bool.false_ne_true, hGe]; rfl), hpl,
      hF1.trans (hfr.congr_left rfl rfl rfl rfl rfl), hk, rfl⟩

/-- the part of `missed` after the entry `e` has been taken off the ring -/
def missedTail (c1 : Cache) (e k : Nat) : Except Err (Cache × Nat) := do
  let c2 ←
    if (c1.dataOf e).isNone then do
      let (c', z) ← evictEntry c1 1
      pure ((c'.modEnt e (fun x => { x with data := c'.dataOf z })).modEnt z (fun x => { x with data := none }))
    else pure c1
  let c3 := c2.modEnt e (fun x => { x with key := k, state := .probe })
  .ok ({ c3 with F := c3.F ++ [e] }, e)

theorem missedTail_spec {c1 : Cache} {st : Prop} {e : Nat} (hlen : c1.ents.length = 2 * c1.cap)
    (hfl : InvH (abs c1) [] [e] st)
    (hzero : (c1.dataOf e).isNone = true → ∃ i ∈ c1.B ++ c1.P, c1.refcnt i = 0) (k : Nat) :
    ∃ c2 v s, missedTail c1 e k = .ok (c2, e) ∧ PreLaunch st c2 e v s ∧ FrameS (abs c1) s ∧
      v.key = k ∧ v.state = .probe := by
  have helt : e < c1.ents.length := by rw [hlen]; exact hfl.lt_of_mem (by simp)
  unfold missedTail
  by_cases hnone : (c1.dataOf e).isNone = true
  · obtain ⟨c', z, hev⟩ := evictEntry_ok 1 (hzero hnone)
    obtain ⟨b, hb, hzlt, hents', hcap', hzmem, hI', hF', hG'⟩ := evict_strip hlen hfl hev
    have hne : e ≠ z := fun h => (hfl.excl e).idle_live (by simp) (by
      rw [h]; simp only [abs_B, abs_P, List.mem_append] at hzmem ⊢; exact Or.inl hzmem)
    have hent' : c'.ent = c1.ent := by funext j; simp [Cache.ent, hents']
    have hdata : (((abs c').setEnt z { c'.ent z with data := none }).ent e).data = none := by
      rw [St.setEnt_ent_ne _ _ hne, abs_ent, hent']
      simpa [Cache.dataOf] using hnone
    have hfill := InvH.fill hI' hdata
    have helt' : e < c'.ents.length := by rw [hents']; exact helt
    refine ⟨{ ((c'.modEnt e (fun x => { x with data := c'.dataOf z })).modEnt z
          (fun x => { x with data := none })).modEnt e (fun x => { x with key := k, state := .probe }) with
        F := c'.F ++ [e] }, { c'.ent e with key := k, state := .probe, data := some b }, _, ?_,
      ⟨by simp [hents', hcap', hlen], hfill, by simp, by simp, ?_⟩,
      hF'.trans (FrameS.setEnt_other ((hI'.excl e).idle_live (by simp)) _), rfl, rfl⟩
    · simp only [hnone, if_true, hev, bind, Except.bind, pure, Except.pure]
      rfl
    · unfold abs St.setEnt
      simp only [St.mk.injEq, true_and, and_true, modEnt_cap, modEnt_U, modEnt_GB, modEnt_B,
        modEnt_P, modEnt_GP]
      funext j
      show (((c'.modEnt e _).modEnt z _).modEnt e _).ent j = _
      simp only [ent_modEnt, modEnt_len]
      by_cases hj : j = e
      · subst hj; simp [helt', hne, hb]
      · by_cases hjz : j = z
        · subst hjz; simp [hzlt, hj]
        · simp [hj, hjz]
  · have hsome : ((abs c1).ent e).data.isSome = true := by
      cases hd : c1.dataOf e with
      | none => simp [hd] at hnone
      | some x => simp [Cache.dataOf] at hd; simp [hd]
    refine ⟨{ c1.modEnt e (fun x => { x with key := k, state := .probe }) with F := c1.F ++ [e] },
      { c1.ent e with key := k, state := .probe }, abs c1, ?_,
      ⟨by simpa using hlen, hfl, hsome, rfl, ?_⟩, FrameS.refl _, rfl, rfl⟩
    · simp only [hnone, pure, Except.pure, bind, Except.bind]
      rfl
    · exact abs_modEnt (c := { c1 with F := c1.F ++ [e] }) _ helt

theorem missed_eq_U {c : Cache} {k u : Nat} (hU : c.U.getLast? = some u) :
    missed c k = missedTail { c with U := c.U.dropLast } u k := by
  unfold missed missedTail
  simp only [hU]
  rfl

theorem missed_eq_GB {c : Cache} {k g : Nat} {rest : List Nat} (hU : c.U.getLast? = none)
    (hGB : c.GB = g :: rest) : missed c k = missedTail { c with GB := rest } g k := by
  unfold missed missedTail
  simp only [hU, hGB]
  rfl

theorem missed_eq_GP {c : Cache} {k g : Nat} (hU : c.U.getLast? = none)
    (hGB : c.GB = []) (hGP : c.GP.getLast? = some g) :
    missed c k = missedTail { c with GP := c.GP.dropLast } g k := by
  unfold missed missedTail
  simp only [hU, hGB, hGP]
  rfl

/-- the buffer-holding unused entries come last, so if the last unused entry holds no buffer none does,
and all `cap` buffers are with cached and in-flight entries -/
theorem zero_ref_of_no_unused_data {c : Cache} {st : Prop} (h : InvS c st)
    (hp : c.pinned + c.F.length < c.cap) (hlast : ∀ u, c.U.getLast? = some u → (c.ent u).data = none) :
    ∃ i ∈ c.B ++ c.P, c.refcnt i = 0 := by
  obtain ⟨hlen, hI⟩ := h
  obtain ⟨u1, u2, hU, hu1, hu2⟩ := hI.u_shape
  have hcnt := hI.count hU hu1 hu2
  simp only [abs_U, abs_ent, abs_B, abs_P, abs_F, abs_cap] at hU hu2 hcnt
  rcases List.eq_nil_or_concat u2 with rfl | ⟨u2', x, rfl⟩
  · simp only [List.length_nil] at hcnt
    exact exists_zero_ref c (by omega)
  · have := hu2 x (by simp)
    rw [hlast x (by simp [hU])] at this
    cases this

theorem missed_spec {c : Cache} {st : Prop} (h : InvS c st) (hp : c.pinned + c.F.length < c.cap)
    (k : Nat) :
    ∃ c2 e v s, missed c k = .ok (c2, e) ∧ PreLaunch st c2 e v s ∧ FrameS (abs c) s ∧ v.key = k ∧
      v.state = .probe := by
  have hlen := h.1
  have hI := h.2
  cases hUl : c.U.getLast? with
  | some u =>
    obtain ⟨U', hU⟩ := List.getLast?_eq_some_iff.1 hUl
    have hdl : c.U.dropLast = U' := by rw [hU]; exact List.dropLast_concat
    have hfl := InvH.floatU hI (e := u) (U' := U') hU
    rw [missed_eq_U hUl, hdl]
    have hz : (({ c with U := U' } : Cache).dataOf u).isNone = true →
        ∃ i ∈ c.B ++ c.P, c.refcnt i = 0 := fun hnone =>
      zero_ref_of_no_unused_data h hp fun u' hu' => by
        obtain rfl : u = u' := by simpa [hUl] using hu'
        simpa [Cache.dataOf, Cache.ent] using hnone
    obtain ⟨c2, v, s, hm, hpl, hfr, hk, hs⟩ := missedTail_spec (c1 := { c with U := U' }) hlen hfl hz k
    exact ⟨c2, u, v, s, hm, hpl, hfr.congr_left rfl rfl rfl rfl rfl, hk, hs⟩
  | none =>
    have hUnil : c.U = [] := List.getLast?_eq_none_iff.1 hUl
    have hz : ∃ i ∈ c.B ++ c.P, c.refcnt i = 0 :=
      zero_ref_of_no_unused_data h hp fun u hu => by simp [hUl] at hu
    cases hGB : c.GB with
    | cons g rest =>
      have hfl := InvH.floatG hI (e := g) (g1 := []) (g2 := rest) (.inl ⟨hGB, rfl⟩)
      rw [missed_eq_GB hUl hGB]
      obtain ⟨c2, v, s, hm, hpl, hfr, hk, hs⟩ :=
        missedTail_spec (c1 := { c with GB := rest }) hlen hfl (fun _ => hz) k
      exact ⟨c2, g, v, s, hm, hpl, hfr.congr_left rfl rfl rfl rfl rfl, hk, hs⟩
    | nil =>
      cases hGPl : c.GP.getLast? with
      | some g =>
        obtain ⟨G', hG⟩ := List.getLast?_eq_some_iff.1 hGPl
        have hdl : c.GP.dropLast = G' := by rw [hG]; exact List.dropLast_concat
        have hfl := InvH.floatG hI (e := g) (g1 := G') (g2 := []) (.inr ⟨hG, rfl⟩)
        rw [missed_eq_GP hUl hGB hGPl, hdl]
        simp only [List.append_nil] at hfl
        obtain ⟨c2, v, s, hm, hpl, hfr, hk, hs⟩ :=
          missedTail_spec (c1 := { c with GP := G' }) hlen hfl (fun _ => hz) k
        exact ⟨c2, g, v, s, hm, hpl, hfr.congr_left rfl rfl rfl rfl rfl, hk, hs⟩
      | none =>
        exfalso
        have hGPnil : c.GP = [] := List.getLast?_eq_none_iff.1 hGPl
        have hcnt := hI.count (u1 := []) (u2 := []) (by simp [hUnil]) (by simp) (by simp)
        have hpl := hI.part.length_eq
        simp only [abs_U, abs_GB, abs_B, abs_P, abs_GP, abs_F, abs_cap, hUnil, hGB, hGPnil,
          List.length_append, List.length_nil, List.length_range] at hcnt hpl
        have := hI.cap_pos
        simp only [abs_cap] at this
        omega

end Kdf.Lemmas.Cache
