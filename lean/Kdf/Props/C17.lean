import Kdf.Model.Cb
/-!
# C17 — a callback layer that overrides nothing changes nothing

Property theorems only.  The hypothesis-free statements at the end are obtained
by discharging the facts about the C forwarders by `decide` on the *generated*
table `Kdf.Gen.cbForward`; they compile only while every forwarder in
`src/addrxlat/ctx.c` calls the same slot of `cb->next` and passes `cb->next`.
-/
namespace Kdf.Props.C17
open Kdf.Model.Cb

/-- The fact about the C source the property rests on. -/
def ForwardersOk : Prop := ∀ h : Hook, Kdf.Gen.cbForward h = (some h, Fwd.next)

theorem hook_mem_all (h : Hook) : h ∈ Hook.all := by cases h <;> decide

theorem forall_hook_iff (P : Hook → Prop) : (∀ h ∈ Hook.all, P h) ↔ ∀ h, P h :=
  ⟨fun H h => H h (hook_mem_all h), fun H h _ => H h⟩

instance : Decidable ForwardersOk := decidable_of_iff _ (forall_hook_iff _)

/-- The C chain walk computes the specification, for every stack depth. -/
theorem invoke_eq_spec (hf : ForwardersOk) (stack : List Layer) (h : Hook) (fuel : Nat)
    (hfuel : stack.length < fuel) : invoke fuel stack h = invokeSpec stack h := by
  unfold invoke
  induction stack generalizing fuel with
  | nil =>
    cases fuel with
    | zero => omega
    | succ n => simp [callFn, invokeSpec]
  | cons L rest ih =>
    cases fuel with
    | zero => omega
    | succ n =>
      simp only [callFn, invokeSpec]
      cases hL : L.impl h with
      | some f => simp
      | none =>
        simp only [hf h]
        exact ih n (by simpa using hfuel)

/-- `addrxlat_ctx_add_cb` links the new record on top (generated fact `Kdf.Gen.addCbLinksOnTop`). -/
theorem addCb_eq (stack : List Layer) (L : Layer) : addCb stack L = L :: stack :=
  if_pos (by decide)

/-- A layer that leaves hook `h` untouched is transparent for `h`: the
previously installed implementation is invoked with its own record, at any
depth of stacking. -/
theorem passthrough_transparent_of (hf : ForwardersOk) (L : Layer) (stack : List Layer) (h : Hook)
    (hno : L.impl h = none) (fuel : Nat) (hfuel : stack.length + 1 < fuel) :
    invoke fuel (addCb stack L) h = invoke (fuel - 1) stack h := by
  rw [addCb_eq, invoke_eq_spec hf _ _ _ (by simpa using hfuel), invoke_eq_spec hf _ _ _ (by omega)]
  simp [invokeSpec, hno]

/-- Adding a layer and removing it again restores the previous chain. -/
theorem add_del_restores (L : Layer) (stack : List Layer) : delCb (addCb stack L) 0 = stack := by
  rw [addCb_eq]
  rfl

/-- Forget how far above the default record the invoked record sits (removing a
lower layer shifts that distance for everything above it, nothing else). -/
def forgetDepth : Res → Res
  | .called f p _ => .called f p 0
  | .base h _ => .base h 0
  | r => r

/-- Removing a layer from anywhere in the chain (any add/remove order) changes
no hook that the layer left untouched: the same implementation is invoked with
the same private data. -/
theorem del_passthrough (stack : List Layer) (i : Nat) (h : Hook) (L : Layer)
    (hi : stack[i]? = some L) (hno : L.impl h = none) :
    forgetDepth (invokeSpec (delCb stack i) h) = forgetDepth (invokeSpec stack h) := by
  induction stack generalizing i with
  | nil => simp at hi
  | cons A rest ih =>
    cases i with
    | zero =>
      simp at hi; subst hi
      simp [delCb, invokeSpec, hno]
    | succ j =>
      simp at hi
      simp only [delCb, List.eraseIdx_cons_succ, invokeSpec]
      cases hA : A.impl h with
      | some f => simp [forgetDepth]
      | none => simpa [delCb] using ih j hi

theorem del_is_erase (stack : List Layer) (i : Nat) : delCb stack i = stack.eraseIdx i := rfl

/-! ### Hypothesis-free forms (tie to the C source through `Kdf.Gen`) -/

theorem forwarders_ok : ForwardersOk := by decide

theorem passthrough_transparent (L : Layer) (stack : List Layer) (h : Hook)
    (hno : L.impl h = none) (fuel : Nat) (hfuel : stack.length + 1 < fuel) :
    invoke fuel (addCb stack L) h = invoke (fuel - 1) stack h :=
  passthrough_transparent_of forwarders_ok L stack h hno fuel hfuel

theorem invokeSpec_ne_diverge (stack : List Layer) (h : Hook) : invokeSpec stack h ≠ .diverge := by
  induction stack with
  | nil => simp [invokeSpec]
  | cons L rest ih =>
    simp only [invokeSpec]
    cases L.impl h <;> simp [ih]

theorem invoke_never_diverges (stack : List Layer) (h : Hook) :
    invoke (stack.length + 1) stack h = invokeSpec stack h ∧ invokeSpec stack h ≠ .diverge :=
  ⟨invoke_eq_spec forwarders_ok _ _ _ (by omega), invokeSpec_ne_diverge stack h⟩

/-! ### Calls the libraries make themselves, on the context a dump object hands out -/

/-- The fact about the C sources: every call site that goes through the top
record of a context passes that record. -/
def TopCallsOk : Prop := ∀ h : Hook, Kdf.Gen.topCallPasses h = Fwd.self

instance : Decidable TopCallsOk := decidable_of_iff _ (forall_hook_iff _)

theorem top_calls_ok : TopCallsOk := by decide

theorem invokeSpec_skip (tops : List Layer) (stack : List Layer) (h : Hook)
    (hno : ∀ T ∈ tops, T.impl h = none) :
    invokeSpec (tops ++ stack) h = invokeSpec stack h := by
  induction tops with
  | nil => rfl
  | cons T rest ih =>
    have hT : T.impl h = none := hno T (by simp)
    simp only [List.cons_append, invokeSpec, hT]
    exact ih (fun U hU => hno U (by simp [hU]))

/-- Any number of application layers that leave hook `h` untouched, stacked on
the layer that a dump object installed (before or after the dump was opened),
are invisible to the libraries' own calls: the dump object's implementation is
run, with its own record (hence its own private data). -/
theorem topCall_transparent_of (hf : ForwardersOk) (ht : TopCallsOk) (tops : List Layer) (D : Layer) (rest : List Layer)
    (h : Hook) (f : Nat) (hno : ∀ T ∈ tops, T.impl h = none) (hD : D.impl h = some f) (fuel : Nat)
    (hfuel : (tops ++ D :: rest).length < fuel) (own : Nat) :
    topCall fuel (tops ++ D :: rest) h own = .called f D.priv (rest.length + 1) := by
  unfold topCall
  rw [ht h]
  have := invoke_eq_spec hf (tops ++ D :: rest) h fuel hfuel
  unfold invoke at this
  simp only [this, invokeSpec_skip tops (D :: rest) h hno, invokeSpec, hD]

theorem topCall_transparent (tops : List Layer) (D : Layer) (rest : List Layer)
    (h : Hook) (f : Nat) (hno : ∀ T ∈ tops, T.impl h = none) (hD : D.impl h = some f) (fuel : Nat)
    (hfuel : (tops ++ D :: rest).length < fuel) (own : Nat) :
    topCall fuel (tops ++ D :: rest) h own = .called f D.priv (rest.length + 1) :=
  topCall_transparent_of forwarders_ok top_calls_ok tops D rest h f hno hD fuel hfuel own

/-- What the property excludes: a call site that fetches the top record but
passes the dump object's own record makes the top layer's forwarder continue
BELOW the dump object's layer — with one pass-through layer on top the look-up
ends at the built-in default instead of the dump object's implementation. -/
example :
    let D : Layer := { priv := 0x1111, impl := fun h => if h = .symValue then some 3 else none }
    let T : Layer := { priv := 0x2222, impl := fun _ => none }
    callFn 8 [T, D] .symValue ([T, D].drop 1) = .base .symValue 0 ∧
    callFn 8 [T, D] .symValue [T, D] = .called 3 0x1111 1 := by
  decide

/-! ### Non-vacuity: a two-deep stack with a pass-through layer on top of an
overriding base layer sees the base layer's private data. -/
example :
    let base : Layer := { priv := 0x1111, impl := fun h => if h = .symValue then some 7 else none }
    let top : Layer := { priv := 0x2222, impl := fun _ => none }
    top.impl .symValue = none ∧
    invokeSpec (addCb [base] top) .symValue = .called 7 0x1111 1 := by
  decide

end Kdf.Props.C17
