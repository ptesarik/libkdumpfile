import Kdf.Model.Hist
/-! The lazily built LKCD index: a scan from the start and a resumed scan find the same descriptor. -/
namespace Kdf.Lemmas.Hist
open Kdf.Model.Hist

/-- the scanned prefix never contains a frame twice (the scan stops at a repetition) -/
def LkInv {D : Type} (descs : List (Nat × D)) (s : Lkcd) : Prop :=
  s.pos ≤ descs.length ∧ ((descs.take s.pos).map (·.1)).Nodup

variable {D : Type} {descs : List (Nat × D)}

theorem firstOf_none {l : List (Nat × D)} {p : Nat} :
    firstOf l p = none ↔ ∀ x ∈ l, x.1 ≠ p := by
  unfold firstOf
  rw [Option.map_eq_none_iff, List.find?_eq_none]
  constructor
  · intro h x hx e; exact h x hx (by simp [e])
  · intro h x hx e; exact h x hx (by simpa using e)

theorem firstOf_take_succ {m : Nat} (hm : m < descs.length) (p : Nat) :
    firstOf (descs.take (m + 1)) p =
      (firstOf (descs.take m) p).or (if descs[m].1 = p then some descs[m].2 else none) := by
  unfold firstOf
  rw [List.take_succ_eq_append_getElem hm, List.find?_append]
  cases (descs.take m).find? (fun x => x.1 = p) with
  | some x => rfl
  | none => by_cases hq : descs[m].1 = p <;> simp [hq]

theorem firstOf_take_succ_none {D : Type} {descs : List (Nat × D)} {m p : Nat} (hm : m < descs.length)
    (h1 : firstOf (descs.take m) p = none) (h2 : descs[m].1 ≠ p) :
    firstOf (descs.take (m + 1)) p = none := by
  rw [firstOf_take_succ hm, h1, if_neg h2]
  rfl

theorem nodup_take_succ {m : Nat} (hm : m < descs.length) :
    ((descs.take (m + 1)).map (·.1)).Nodup ↔
      ((descs.take m).map (·.1)).Nodup ∧ firstOf (descs.take m) descs[m].1 = none := by
  rw [List.take_succ_eq_append_getElem hm, List.map_append, List.nodup_append, firstOf_none]
  constructor
  · rintro ⟨h1, _, h3⟩
    refine ⟨h1, ?_⟩
    intro x hx e
    exact h3 x.1 (List.mem_map.mpr ⟨x, hx, rfl⟩) descs[m].1 (by simp) e
  · rintro ⟨h1, h3⟩
    refine ⟨h1, by simp, ?_⟩
    intro a ha b hb
    obtain ⟨x, hx, rfl⟩ := List.mem_map.mp ha
    simp only [List.map_cons, List.map_nil, List.mem_singleton] at hb
    subst hb
    exact h3 x hx

theorem scanFrom_lt (p : Nat) {i : Nat} (fuel : Nat) (hi : i < descs.length) :
    scanFrom descs p i (fuel + 1) =
      if (firstOf (descs.take i) descs[i].1).isSome then (i, .corrupt)
      else if descs[i].1 = p then (i + 1, .found descs[i].2)
      else scanFrom descs p (i + 1) fuel := by
  rw [scanFrom, List.getElem?_eq_getElem hi]

theorem scanFrom_ge (p : Nat) {i : Nat} (fuel : Nat) (hi : descs.length ≤ i) :
    scanFrom descs p i fuel = (descs.length, .notfound) := by
  cases fuel with
  | zero => rfl
  | succ fuel => rw [scanFrom, List.getElem?_eq_none hi]

/-- a scan from the start over a prefix without repetition: it has found `p` there, or it
arrives at the end of the prefix -/
theorem scan_prefix (p : Nat) :
    ∀ n, n ≤ descs.length → ((descs.take n).map (·.1)).Nodup → ∀ fuel,
      (∀ d, firstOf (descs.take n) p = some d → (scanFrom descs p 0 (n + fuel)).2 = .found d) ∧
      (firstOf (descs.take n) p = none → scanFrom descs p 0 (n + fuel) = scanFrom descs p n fuel)
  | 0, _, _, fuel => ⟨fun _ hd => (nomatch hd), fun _ => by rw [Nat.zero_add]⟩
  | n + 1, hn, hc, fuel => by
    have hlt : n < descs.length := hn
    obtain ⟨hc', hq⟩ := (nodup_take_succ hlt).1 hc
    have ih := scan_prefix p n (Nat.le_of_lt hlt) hc' (fuel + 1)
    rw [firstOf_take_succ hlt, Nat.add_assoc, Nat.add_comm 1 fuel]
    cases hf : firstOf (descs.take n) p with
    | some d0 => exact ⟨fun d hd => Option.some.inj hd ▸ ih.1 d0 hf, fun h => nomatch h⟩
    | none =>
      -- the scan arrives at descriptor `n`, which repeats nothing
      have hn : scanFrom descs p 0 (n + (fuel + 1)) =
          if descs[n].1 = p then (n + 1, .found descs[n].2) else scanFrom descs p (n + 1) fuel := by
        rw [ih.2 hf, scanFrom_lt p fuel hlt, hq]
        rfl
      by_cases hp : descs[n].1 = p
      · rw [if_pos hp] at hn ⊢
        exact ⟨fun d hd => Option.some.inj hd ▸ congrArg Prod.snd hn, fun h => nomatch h⟩
      · rw [if_neg hp] at hn ⊢
        exact ⟨fun _ hd => (nomatch hd), fun _ => hn⟩

/-- a scan resumed at a position satisfying the invariant stops at such a position -/
theorem scanFrom_keeps_LkInv (p : Nat) :
    ∀ fuel n, LkInv descs ⟨n⟩ → descs.length - n < fuel → LkInv descs ⟨(scanFrom descs p n fuel).1⟩
  | 0, _, _, h => absurd h (Nat.not_lt_zero _)
  | fuel + 1, n, h, hf => by
    have hn : n ≤ descs.length := h.1
    by_cases hlt : n < descs.length
    · rw [scanFrom_lt p fuel hlt]
      by_cases hdup : (firstOf (descs.take n) descs[n].1).isSome = true
      · rw [if_pos hdup]; exact h
      · rw [if_neg hdup]
        have h1 : LkInv descs ⟨n + 1⟩ :=
          ⟨hlt, (nodup_take_succ hlt).2 ⟨h.2, Option.not_isSome_iff_eq_none.1 hdup⟩⟩
        by_cases hq : descs[n].1 = p
        · rw [if_pos hq]; exact h1
        · rw [if_neg hq]; exact scanFrom_keeps_LkInv p fuel (n + 1) h1 (by omega)
    · rw [scanFrom_ge p _ (Nat.le_of_not_lt hlt)]
      have : n = descs.length := Nat.le_antisymm hn (Nat.le_of_not_lt hlt)
      exact this ▸ h

theorem lkInv_init : LkInv descs ⟨0⟩ :=
  ⟨Nat.zero_le _, List.nodup_nil⟩

end Kdf.Lemmas.Hist
