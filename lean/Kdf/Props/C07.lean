import Kdf.Lemmas.PfnRegions
import Kdf.Lemmas.PfnGetBits
/-!
# C07 — page maps agree with what can be read, and with themselves

`S` = the set of frames a bitmap / region list / segment list describes; every
query function returns what `S` says.
-/
namespace Kdf.Props.C07
open Kdf.Model.Pfn Kdf.Lemmas.Pfn

/-! ### Bit scans (both bit orders) -/

theorem skip_clear_spec (msb0 : Bool) (bm : Bitmap) (hb : BytesWF bm) (size pfn : Nat) (hs : size ≤ bm.length) :
    let r := if msb0 then skipClearMsb0 bm size pfn else skipClearLsb0 bm size pfn
    pfn ≤ r ∧ (pfn < size * 8 → r ≤ size * 8) ∧
    (∀ j, pfn ≤ j → j < r → j < size * 8 → bitOf msb0 bm j = false) ∧
    (r < size * 8 → bitOf msb0 bm r = true) := by
  have _ := hs  -- not needed: bytes beyond the end of the bitmap read as zero
  exact skipClear_spec msb0 bm hb size pfn

theorem skip_set_spec (msb0 : Bool) (bm : Bitmap) (hb : BytesWF bm) (size pfn : Nat) (hs : size ≤ bm.length) :
    let r := if msb0 then skipSetMsb0 bm size pfn else skipSetLsb0 bm size pfn
    pfn ≤ r ∧ (pfn < size * 8 → r ≤ size * 8) ∧
    (∀ j, pfn ≤ j → j < r → j < size * 8 → bitOf msb0 bm j = true) ∧
    (r < size * 8 → bitOf msb0 bm r = false) := by
  have _ := hs
  exact skipSet_spec msb0 bm hb size pfn

/-! ### Regions built from a bitmap -/

/-- The region list consists of the maximal runs of set bits inside
`[start, end)`, in ascending order, and covers exactly the set bits. -/
theorem regions_spec (msb0 : Bool) (bm : Bitmap) (hb : BytesWF bm) (startPfn endPfn fileoff elemsz : Nat)
    (hlen : (endPfn + 7) / 8 ≤ bm.length) :
    let rs := regionsFromBitmap bm msb0 startPfn endPfn fileoff elemsz
    RegionsMaximal rs ∧
    (∀ r ∈ rs, startPfn ≤ r.pfn ∧ r.pfn + r.cnt ≤ endPfn ∧ ∀ p, r.has p → bitOf msb0 bm p = true) ∧
    (∀ p, startPfn ≤ p → p < endPfn → bitOf msb0 bm p = true → ∃ r ∈ rs, r.has p) := by
  have _ := hlen
  obtain ⟨h1, h2, h3, _⟩ := regionsFromBitmap_runs msb0 bm hb startPfn endPfn fileoff elemsz
  exact ⟨h1, h2, h3⟩

/-- File position of a region = `fileoff + elemsz ·` (number of set bits in `[start, r.pfn)`). -/
theorem regions_pos (msb0 : Bool) (bm : Bitmap) (hb : BytesWF bm) (startPfn endPfn fileoff elemsz : Nat)
    (hlen : (endPfn + 7) / 8 ≤ bm.length) (r : Region)
    (hr : r ∈ regionsFromBitmap bm msb0 startPfn endPfn fileoff elemsz) :
    r.pos = fileoff + elemsz *
      ((List.range (r.pfn - startPfn)).filter (fun i => bitOf msb0 bm (startPfn + i))).length := by
  have _ := hlen
  exact (regionsFromBitmap_runs msb0 bm hb startPfn endPfn fileoff elemsz).2.2.2 r hr

/-! ### Lookups -/

/-- Binary search: the region containing `p`, else the first region above `p`, else none. -/
theorem find_region_spec (rs : List Region) (h : RegionsSorted rs) (p : Nat) :
    match findRegion rs p with
    | some r => r ∈ rs ∧ p < r.pfn + r.cnt ∧ ∀ q ∈ rs, p < q.pfn + q.cnt → r.pfn ≤ q.pfn
    | none => ∀ q ∈ rs, q.pfn + q.cnt ≤ p :=
  findRegion_ok rs h p

/-- find-next-set: the least mapped frame at or above `p` (single file or split set). -/
theorem find_mapped_spec (maps : List FileMap) (h : MapsWF maps) (p : Nat) :
    match findMapped maps p with
    | some q => p ≤ q ∧ Mapped maps q ∧ ∀ j, p ≤ j → j < q → ¬ Mapped maps j
    | none => ∀ j, p ≤ j → ¬ Mapped maps j := by
  unfold findMapped
  cases hreg : regionAtOrAfter maps p with
  | none => exact regionAtOrAfter_none h hreg
  | some r => exact regionAtOrAfter_some h hreg

/-- find-next-clear: the least unmapped frame at or above `p`. -/
theorem find_unmapped_spec (maps : List FileMap) (h : MapsWF maps) (p fuel : Nat)
    (hf : (maps.map (fun m => m.regions.length)).foldl (· + ·) 0 < fuel) :
    let q := findUnmapped maps fuel p
    p ≤ q ∧ ¬ Mapped maps q ∧ ∀ j, p ≤ j → j < q → Mapped maps j := by
  exact findUnmapped_spec maps h fuel p (Nat.lt_of_le_of_lt (remaining_le_total maps p) hf)

/-! ### Bulk retrieval -/

/-- `set_bits` sets exactly the bits `[s, e]`, touches no other bit and stays
inside the buffer. -/
theorem set_bits_spec (buf : Bitmap) (hb : BytesWF buf) (s e : Nat) (hse : s ≤ e) (he : e / 8 < buf.length) :
    ∃ buf', setBits buf s e = some buf' ∧ buf'.length = buf.length ∧ BytesWF buf' ∧
      ∀ i, i < buf.length * 8 → bitL buf' i = (if s ≤ i ∧ i ≤ e then true else bitL buf i) :=
  setBits_spec buf hb s e hse he

theorem clear_bits_spec (buf : Bitmap) (hb : BytesWF buf) (s e : Nat) (hse : s ≤ e) (he : e / 8 < buf.length) :
    ∃ buf', clearBits buf s e = some buf' ∧ buf'.length = buf.length ∧ BytesWF buf' ∧
      ∀ i, i < buf.length * 8 → bitL buf' i = (if s ≤ i ∧ i ≤ e then false else bitL buf i) := by
  unfold clearBits
  dsimp only
  by_cases h1 : s / 8 < e / 8
  · rw [if_pos h1, if_pos he]
    refine ⟨_, rfl, mapIdx_bits buf hb _ (fun i => s ≤ i ∧ i ≤ e) false ?_⟩
    intro j b _ hbj
    by_cases hjs : j = s / 8
    · rw [if_pos hjs]
      exact ⟨and_byte _ hbj, fun t _ => tbL_and_mask (mask_s _ t) (by omega)⟩
    rw [if_neg hjs]
    by_cases hmid : s / 8 < j ∧ j < e / 8
    · rw [if_pos hmid]
      exact ⟨by omega, fun t ht => by rw [if_pos (by omega)]; simp [tbL]⟩
    rw [if_neg hmid]
    by_cases hje : j = e / 8
    · rw [if_pos hje]
      exact ⟨and_byte _ hbj, fun t ht => tbL_and_mask (mask_nlo _ ht) (by omega)⟩
    · rw [if_neg hje]
      exact ⟨hbj, fun t ht => by rw [if_neg (by omega)]⟩
  · rw [if_neg h1, if_pos (by omega), modify_eq_mapIdx]
    refine ⟨_, rfl, mapIdx_bits buf hb _ (fun i => s ≤ i ∧ i ≤ e) false ?_⟩
    intro j b _ hbj
    by_cases hjs : j = s / 8
    · rw [if_pos hjs]
      refine ⟨and_byte _ hbj, fun t ht => tbL_and_mask (Q := s % 8 ≤ t ∧ t ≤ e % 8) ?_ (by omega)⟩
      rw [tbL_testBit, Nat.testBit_or, ← tbL_testBit, ← tbL_testBit, mask_s, mask_nlo _ ht,
        Bool.decide_and, Bool.not_and]
    · rw [if_neg hjs]
      exact ⟨hbj, fun t ht => by rw [if_neg (by omega)]⟩

/-- Bulk retrieval over any range: the buffer has exactly `(last−first)/8+1`
bytes (nothing is written beyond), bit `i` says whether frame `first+i` is
mapped, and the padding bits of the last byte are zero. -/
theorem get_bits_spec (maps : List FileMap) (h : MapsWF maps) (first last : Nat) (hfl : first ≤ last) :
    ∃ buf, getMapBits maps first last = some buf ∧ buf.length = (last - first) / 8 + 1 ∧ BytesWF buf ∧
      ∀ i, i < buf.length * 8 → (bitL buf i = true ↔ (i ≤ last - first ∧ Mapped maps (first + i))) := by
  unfold getMapBits
  dsimp only
  split
  · rename_i hffm
    apply zero_bits
    intro i ⟨_, hm⟩
    exact not_mapped_of_ends (ends_of_findFileMap_none h hffm) (first + i) (Nat.le_add_right _ _) hm
  · rename_i i0 m hffm
    obtain ⟨pre, post, e1, e2, e3, e4⟩ := findFileMap_some hffm
    subst e2
    rw [e1, List.drop_left]
    rw [e1] at h
    obtain ⟨buf, k1, k2, k3, k4⟩ := (fold_bits
      (fun buf (r : Region) =>
        if r.pfn + r.cnt ≤ first ∨ r.pfn > last ∨ r.cnt = 0 then some buf
        else setBits buf (max r.pfn first - first) (min (r.pfn + r.cnt - 1) last - first))
      first last (fun r i => r.has (first + i))
      (by
        intro buf r hb hl
        by_cases hc : r.pfn + r.cnt ≤ first ∨ r.pfn > last ∨ r.cnt = 0
        · rw [if_pos hc]
          exact StepOK.skip hb fun i _ ⟨a1, a2⟩ => by omega
        · rw [if_neg hc]
          exact (StepOK.set hb hl (by omega) (by omega) (by omega)).congr
            fun i => ⟨fun ⟨a1, a2⟩ => ⟨a1, by omega⟩, fun ⟨a1, a2⟩ => ⟨a1, by omega⟩⟩)
      (allRegions (m :: post)) _ (wf_zero _) List.length_replicate).of_zero
    exact ⟨buf, k1, k2, k3, fun i hi => (k4 i hi).trans
      (and_congr_right fun _ => mapped_iff_rest h e3 (Nat.le_add_right _ _))⟩

/-- A set bit of the bulk answer is a fixed point of find-next-set, a clear bit of find-next-clear. -/
theorem queries_consistent (maps : List FileMap) (h : MapsWF maps) (first last : Nat) (hfl : first ≤ last) (buf : Bitmap)
    (hb : getMapBits maps first last = some buf) (i : Nat) (hi : i ≤ last - first) :
    (bitL buf i = true → findMapped maps (first + i) = some (first + i)) ∧
    (bitL buf i = false → ∀ fuel, (maps.map (fun m => m.regions.length)).foldl (· + ·) 0 < fuel →
        findUnmapped maps fuel (first + i) = first + i) := by
  obtain ⟨buf', e1, e2, _, e4⟩ := get_bits_spec maps h first last hfl
  rw [hb] at e1
  simp only [Option.some.injEq] at e1
  subst e1
  have hbit := e4 i (by rw [e2]; omega)
  constructor
  · intro ht
    have hm : Mapped maps (first + i) := (hbit.mp ht).2
    have := find_mapped_spec maps h (first + i)
    split at this
    · rename_i q hq
      obtain ⟨a1, a2, a3⟩ := this
      by_cases hlt : first + i < q
      · exact absurd hm (a3 _ (Nat.le_refl _) hlt)
      · rw [hq]; congr 1; omega
    · exact absurd hm (this _ (Nat.le_refl _))
  · intro hf fuel hfuel
    have hm : ¬ Mapped maps (first + i) := by
      intro hm
      have := hbit.mpr ⟨hi, hm⟩
      rw [hf] at this
      exact Bool.false_ne_true this
    obtain ⟨a1, a2, a3⟩ := find_unmapped_spec maps h (first + i) fuel hfuel
    by_cases hlt : first + i < findUnmapped maps fuel (first + i)
    · exact absurd (a3 _ (Nat.le_refl _) hlt) hm
    · omega

/-! ### ELF segments -/

theorem elf_get_bits_spec (segs : List Seg) (h : SegsSorted segs) (shift first last : Nat) (hfl : first ≤ last)
    (hsh : shift < 64) :
    ∃ buf, elfGetBits segs shift first last = some buf ∧ buf.length = (last - first) / 8 + 1 ∧ BytesWF buf ∧
      ∀ i, i < buf.length * 8 → (bitL buf i = true ↔ (i ≤ last - first ∧ SegMapped segs shift (first + i))) := by
  have _ := hsh
  have hP : 0 < 2 ^ shift := Nat.two_pow_pos _
  unfold elfGetBits
  dsimp only
  split
  · rename_i hfc
    apply zero_bits
    intro i ⟨hi2, s', hs', c⟩
    rcases findClosest_none hfc with hall | ⟨pre, s, post, e1, e3, e4, e5, e6⟩
    · exact not_cov_of_not_hit hP (hall s' hs') (first + i) (Nat.le_add_right _ _) c
    · -- the first segment that reaches `first` starts beyond `last`, and so do all after it
      have hdist : (last - first + 1) * 2 ^ shift + first * 2 ^ shift = (last + 1) * 2 ^ shift := by
        rw [← Nat.add_mul]; congr 1; omega
      have hlo : last + 1 ≤ s.phys / 2 ^ shift := (Nat.le_div_iff_mul_le hP).mpr (by omega)
      rw [e1] at h hs'
      exact not_cov_before hP h e3 (Nat.le_add_right _ _) (by omega) ⟨s', hs', c⟩
  · rename_i i0 hfc
    obtain ⟨pre, s, post, e1, e2, e3, e4, e5⟩ := findClosest_some hfc
    subst e2
    rw [e1, List.drop_left]
    obtain ⟨buf, k1, k2, k3, k4⟩ := (fold_bits
      (fun buf (s : Seg) =>
        if s.size = 0 then some buf
        else if (s.phys + s.size - 1) / 2^shift < first ∨ s.phys / 2^shift > last then some buf
        else setBits buf (max (s.phys / 2^shift) first - first)
          (min ((s.phys + s.size - 1) / 2^shift) last - first))
      first last (fun s i => SegCov (2^shift) s (first + i))
      (by
        intro buf s hb hl
        by_cases hz : s.size = 0
        · rw [if_pos hz]
          exact StepOK.skip hb fun i _ c => c.1 hz
        rw [if_neg hz]
        by_cases hc : (s.phys + s.size - 1) / 2^shift < first ∨ s.phys / 2^shift > last
        · rw [if_pos hc]
          exact StepOK.skip hb fun i _ ⟨_, c2, c3⟩ => by omega
        · rw [if_neg hc]
          exact (StepOK.set hb hl (Nat.div_le_div_right (by omega)) (by omega) (by omega)).congr
            fun i => ⟨fun hh => ⟨hz, hh⟩, fun hh => hh.2⟩)
      (s :: post) _ (wf_zero _) List.length_replicate).of_zero
    refine ⟨buf, k1, k2, k3, fun i hi => (k4 i hi).trans (and_congr_right fun _ => ?_)⟩
    constructor
    · rintro ⟨x, hx, hh⟩
      exact ⟨x, List.mem_append_right _ hx, hh⟩
    · rintro ⟨x, hx, hh⟩
      rcases List.mem_append.mp hx with hx | hx
      · exact absurd hh (not_cov_of_not_hit hP (e3 x hx) (first + i) (Nat.le_add_right _ _))
      · exact ⟨x, hx, hh⟩

theorem elf_find_set_spec (segs : List Seg) (h : SegsSorted segs) (shift idx : Nat) (hsh : shift < 64)
    (hsmall : ∀ s ∈ segs, s.phys + s.size < 2^64) (hidx : idx * 2^shift < 2^64) :
    match elfFindSet segs shift idx with
    | some q => idx ≤ q ∧ SegMapped segs shift q ∧ ∀ j, idx ≤ j → j < q → ¬ SegMapped segs shift j
    | none => ∀ j, idx ≤ j → ¬ SegMapped segs shift j := by
  have _ := hsh
  have _ := hidx
  split
  next q hq =>
    have hP : 0 < 2 ^ shift := Nat.two_pow_pos _
    unfold elfFindSet at hq
    split at hq
    · simp at hq
    · rename_i i hfc
      obtain ⟨pre, s, post, e1, e2, e3, e4, e5⟩ := findClosest_some hfc
      subst e2
      have hget : segs[pre.length]? = some s := by rw [e1]; simp
      rw [hget] at hq
      simp only [Option.some.injEq] at hq
      subst hq
      obtain ⟨k1, k2⟩ := e4
      have hle : idx ≤ (s.phys + s.size - 1) / 2 ^ shift := (Nat.le_div_iff_mul_le hP).mpr k2
      have hmono : s.phys / 2 ^ shift ≤ (s.phys + s.size - 1) / 2 ^ shift := Nat.div_le_div_right (by omega)
      refine ⟨by omega, ⟨s, by rw [e1]; simp, k1, by omega, by omega⟩, ?_⟩
      intro j hj1 hj2 ⟨s', hs', c⟩
      rw [e1] at h hs'
      exact not_cov_before hP h e3 hj1 (by omega) ⟨s', hs', c⟩
  next hq =>
    have hP : 0 < 2 ^ shift := Nat.two_pow_pos _
    unfold elfFindSet at hq
    split at hq
    · rename_i hfc
      rcases findClosest_none hfc with hall | ⟨pre, s, post, e1, e3, e4, e5, e6⟩
      · intro j hj ⟨s', hs', c⟩
        exact not_cov_of_not_hit hP (hall s' hs') j hj c
      · exfalso
        have := hsmall s (by rw [e1]; simp)
        obtain ⟨k1, k2⟩ := e4
        omega
    · rename_i i hfc
      obtain ⟨pre, s, post, e1, e2, e3, e4, e5⟩ := findClosest_some hfc
      subst e2
      have hget : segs[pre.length]? = some s := by rw [e1]; simp
      rw [hget] at hq
      simp at hq

/-! ### Non-vacuity -/
example : regionsFromBitmap [0x67, 0x0e] false 0 16 1000 24 =
    [⟨0, 3, 1000⟩, ⟨5, 2, 1072⟩, ⟨9, 3, 1120⟩] := by decide
example : regionsFromBitmap [0xf8, 0x70] true 3 16 0 4096 = [⟨3, 2, 0⟩, ⟨9, 3, 8192⟩] := by decide
example : getMapBits [⟨[⟨0, 3, 0⟩, ⟨5, 2, 0⟩], 0, 8⟩, ⟨[⟨9, 3, 0⟩], 8, 16⟩] 1 12 = some [0x33, 0x07] := by decide

end Kdf.Props.C07
