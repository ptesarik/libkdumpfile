import Kdf.Model.Derived
/-! The page size / page shift pair: which values `page_size_pre_hook` accepts, and closed forms
of the two mutually recursive sets. -/
namespace Kdf.Lemmas.DerivedPage
open Kdf.Model.Derived

/-- both unset, or `size = 2 ^ shift` with `shift < 64` -/
def Coh (p : Page) : Prop :=
  match p.size, p.shift with
  | none, none => True
  | some v, some s => s < 64 ∧ v = 2 ^ s
  | _, _ => False

theorem pow2_ne_zero (s : Nat) : (2 : Nat) ^ s ≠ 0 := Nat.ne_of_gt (Nat.pow_pos (by omega))

theorem coh_two_pow {s : Nat} (hs : s < 64) : Coh ⟨some (2 ^ s), some s⟩ := ⟨hs, rfl⟩

theorem Coh.size_two_pow {p : Page} (hp : Coh p) {v : Nat} (h : p.size = some v) :
    ∃ s, s < 64 ∧ v = 2 ^ s := by
  obtain ⟨sz, sh⟩ := p
  cases h
  cases sh with
  | none => exact hp.elim
  | some s => exact ⟨s, hp⟩

/-! ### the bit trick `v == (v & ~(v - 1))`, on `n` bits -/

theorem and_compl_eq_zero (n u : Nat) (hu : u < 2 ^ n) : u &&& (2 ^ n - (u + 1)) = 0 := by
  apply Nat.eq_of_testBit_eq
  intro i
  rw [Nat.testBit_and, Nat.testBit_two_pow_sub_succ hu]
  cases Nat.testBit u i <;> simp

theorem two_pow_and_neg (n s : Nat) (hs : s < n) : 2 ^ s &&& (2 ^ n - 2 ^ s) = 2 ^ s := by
  have hpos : 0 < 2 ^ s := Nat.pow_pos (by omega)
  have hlt : 2 ^ s < 2 ^ n := Nat.pow_lt_pow_right (by omega) hs
  have e : 2 ^ n - 2 ^ s = 2 ^ n - (2 ^ s - 1 + 1) := by omega
  apply Nat.eq_of_testBit_eq
  intro i
  -- bit `i` of `2^n - 2^s` is set iff `s ≤ i < n`
  rw [Nat.testBit_and, e, Nat.testBit_two_pow_sub_succ (by omega), Nat.testBit_two_pow_sub_one,
    Nat.testBit_two_pow]
  by_cases h : s = i
  · subst h; simp [hs]
  · simp [h]

theorem even_or_odd (v : Nat) : ∃ w, v = 2 * w ∨ v = 2 * w + 1 := by
  have hv := Nat.div_add_mod v 2
  rcases Nat.mod_two_eq_zero_or_one v with h2 | h2 <;> rw [h2] at hv
  · exact ⟨v / 2, Or.inl hv.symm⟩
  · exact ⟨v / 2, Or.inr hv.symm⟩

/-- only a power of two passes: an even `v = 2 * w` passes iff `w` does on one bit less, an odd
`v = 2 * w + 1` only if `w = 0` -/
theorem eq_two_pow_of_and_neg (n : Nat) : ∀ v, 0 < v → v < 2 ^ n → v = v &&& (2 ^ n - v) →
    ∃ s, s < n ∧ v = 2 ^ s := by
  induction n with
  | zero => intro v h0 h1; omega
  | succ n ih =>
    intro v h0 hlt h
    rw [Nat.pow_succ'] at hlt h
    have hdiv : v / 2 = v / 2 &&& (2 * 2 ^ n - v) / 2 := by rw [← Nat.and_div_two, ← h]
    obtain ⟨w, rfl | rfl⟩ := even_or_odd v
    · rw [← Nat.mul_sub, Nat.mul_div_cancel_left _ (by decide),
        Nat.mul_div_cancel_left _ (by decide)] at hdiv
      obtain ⟨s, hs, hv⟩ := ih w (by omega) (by omega) hdiv
      exact ⟨s + 1, by omega, by rw [Nat.pow_succ', hv]⟩
    · rw [Nat.mul_sub_div (2 * w) 2 (2 ^ n) (by omega), Nat.mul_add_div (by decide),
        Nat.mul_div_cancel_left _ (by decide), Nat.add_zero,
        and_compl_eq_zero n w (by omega)] at hdiv
      exact ⟨0, by omega, by omega⟩

theorem ffslGo_two_pow (n s : Nat) (hs : s < n) : ffslGo n (2 ^ s) = s + 1 := by
  induction n generalizing s with
  | zero => omega
  | succ n ih =>
    cases s with
    | zero => rfl
    | succ s =>
      rw [ffslGo, Nat.pow_succ, Nat.mul_mod_left, if_neg (by decide),
        Nat.mul_div_cancel _ (by decide), ih s (by omega)]
      rfl

theorem lowMask_two_pow (s : Nat) (hs : s < 64) : lowMask (2 ^ s) = 2 ^ s := by
  rw [lowMask, Nat.sub_sub_sub_cancel_right (Nat.pow_pos (by decide))]
  exact two_pow_and_neg 64 s hs

theorem eq_two_pow_of_lowMask (v : Nat) (h0 : v ≠ 0) (h : v = lowMask v) :
    ∃ s, s < 64 ∧ v = 2 ^ s := by
  unfold lowMask at h
  by_cases hlt : v < W
  · rw [Nat.sub_sub_sub_cancel_right (Nat.pos_of_ne_zero h0)] at h
    exact eq_two_pow_of_and_neg 64 v (Nat.pos_of_ne_zero h0) hlt h
  · -- the mask is 0 on `size_t`
    rw [Nat.sub_eq_zero_of_le (Nat.sub_le_sub_right (Nat.le_of_not_lt hlt) 1), Nat.and_zero] at h
    exact absurd h h0

/-- the shift that the size post hook passes on: `ffsl(page_size) - 1` on `size_t` -/
theorem ffsl_two_pow_dec (s : Nat) (hs : s < 64) : (ffsl (2 ^ s) + W - 1) % W = s := by
  have e : s + 1 + W - 1 = s + W := by omega
  rw [ffsl, ffslGo_two_pow 64 s hs, e, Nat.add_mod_right]
  exact Nat.mod_eq_of_lt (by simp only [W]; omega)

theorem accepted_two_pow {s : Nat} (hs : s < 64) : ¬ (2 ^ s = 0 ∨ 2 ^ s ≠ lowMask (2 ^ s)) := by
  rw [lowMask_two_pow s hs]
  exact fun h => h.elim (pow2_ne_zero s) (fun h => h rfl)

/-- With fuel 3 a set of the shift is final: the stored shift is kept, a shift of 64 or more is
refused, any other is stored with its size (the size set by the post hook calls back with the
shift it finds stored, and the recursion ends). -/
theorem setShift_eq (f : Nat) (hf : 3 ≤ f) (p : Page) (s : Nat) :
    setShift f p s =
      if p.shift = some s then .done .ok p
      else if 64 ≤ s then .done .corrupt p
      else .done .ok ⟨some (2 ^ s), some s⟩ := by
  obtain ⟨f, rfl⟩ := Nat.exists_eq_add_of_le' hf
  rw [setShift]
  by_cases h1 : p.shift = some s
  · rw [if_pos h1, if_pos h1]
  · by_cases h64 : 64 ≤ s
    · simp only [h1, h64, if_true, if_false]
    · simp only [h1, h64, if_false]
      rw [setSize]
      by_cases h2 : p.size = some (2 ^ s)
      · simp only [h2, if_true]
      · simp only [h2, accepted_two_pow (Nat.lt_of_not_le h64), if_false,
          ffsl_two_pow_dec s (Nat.lt_of_not_le h64), setShift, if_true]

theorem setSize_two_pow (f : Nat) (hf : 4 ≤ f) (p : Page) (s : Nat) (hs : s < 64) :
    setSize f p (2 ^ s) =
      if p.size = some (2 ^ s) then .done .ok p else .done .ok ⟨some (2 ^ s), some s⟩ := by
  obtain ⟨f, rfl⟩ := Nat.exists_eq_add_of_le' hf
  rw [setSize]
  by_cases h1 : p.size = some (2 ^ s)
  · rw [if_pos h1, if_pos h1]
  · simp only [h1, accepted_two_pow hs, if_false, ffsl_two_pow_dec s hs,
      setShift_eq (f + 3) (Nat.le_add_left 3 f)]
    by_cases h2 : p.shift = some s
    · obtain ⟨sz, sh⟩ := p
      simp only at h2
      simp only [h2, if_true]
    · simp only [h2, Nat.not_le_of_lt hs, if_false]

theorem setSize_refused (f : Nat) (hf : 0 < f) (p : Page) (v : Nat)
    (hv : ¬ ∃ s, s < 64 ∧ v = 2 ^ s) :
    setSize f p v = if p.size = some v then .done .ok p else .done .corrupt p := by
  obtain ⟨f, rfl⟩ := Nat.exists_eq_add_of_le' hf
  have hr : v = 0 ∨ v ≠ lowMask v :=
    Classical.byContradiction fun hn =>
      hv (eq_two_pow_of_lowMask v (fun h => hn (Or.inl h))
        (Classical.byContradiction fun h => hn (Or.inr h)))
  rw [setSize, if_pos hr]

end Kdf.Lemmas.DerivedPage
