import Kdf.Lemmas.ScanBase

/-! C08: the ascending scanners (`lowest_mapped_tbl`, `lowest_unmapped_tbl`).  Their postcondition
`Post`, the step to the next entry of a table, and the two loops. -/
namespace Kdf.Lemmas.Scan

open Kdf.Model.Pgt Kdf.Model.Scan Kdf.Model.PgtArch Kdf.Spec.ArchWalk Kdf.Lemmas.Pgt
  Kdf.Lemmas.PgtWalk

/-- Postcondition of an ascending scan started at `va` inside a table of span `T`: `Q` holds for the
addresses that were skipped.  "Not present": the scan left the table (or passed `limit`) at `e`;
any other status: it stopped at `a`. -/
def Post (Q : Nat → Prop) (Stop : XStatus → Nat → Step → Prop) (limit T va : Nat) : Res → Prop :=
  PostG
    (fun a => ∃ e, a = e % W ∧ (∀ x, va ≤ x → x < e → x ≤ limit → Q x) ∧
      (e = (va / T + 1) * T ∨ (limit < e ∧ e < W)))
    (fun st a s => va ≤ a ∧ a ≤ limit ∧ Stop st a s ∧ ∀ x, va ≤ x → x < a → Q x)

section

variable {Q Q' : Nat → Prop} {Stop Stop' : XStatus → Nat → Step → Prop} {limit T T' va a : Nat}
  {s : Step} {st : XStatus} {res : Res}

theorem post_here (h : st ≠ .notpresent) (hal : va ≤ limit) (hs : Stop st va s) :
    Post Q Stop limit T va (.done st va s) :=
  (postG_stop h).2 ⟨Nat.le_refl _, hal, hs, fun _ h1 h2 => absurd h2 (Nat.not_lt.2 h1)⟩

theorem post_extend (hp : Post Q Stop limit T a res) (hT : a / T = va / T) (hle : va ≤ a)
    (hq : ∀ x, va ≤ x → x < a → x ≤ limit → Q x) : Post Q Stop limit T va res := by
  have hq' : ∀ x, va ≤ x → x ≤ limit → (a ≤ x → Q x) → Q x := fun x h1 h2 h3 =>
    if hxa : x < a then hq x h1 hxa h2 else h3 (Nat.le_of_not_lt hxa)
  exact hp.imp
    (fun _ ⟨e, he1, he2, he3⟩ =>
      ⟨e, he1, fun x hx1 hx2 hx3 => hq' x hx1 hx3 (fun hx => he2 x hx hx2 hx3), hT ▸ he3⟩)
    (fun _ a' _ _ ⟨h3, h4, h5, h6⟩ => ⟨Nat.le_trans hle h3, h4, h5, fun x hx1 hx2 =>
      hq' x hx1 (Nat.le_trans (Nat.le_of_lt hx2) h4) (fun hx => h6 x hx hx2)⟩)

/-- only addresses of `[va, limit]` are ever judged -/
theorem Post.mono (hp : Post Q Stop limit T va res) (hQ : ∀ x, va ≤ x → x ≤ limit → Q x → Q' x)
    (hS : ∀ st a s, va ≤ a → a ≤ limit → Stop st a s → Stop' st a s) :
    Post Q' Stop' limit T va res :=
  hp.imp
    (fun _ ⟨e, he1, he2, he3⟩ =>
      ⟨e, he1, fun x hx1 hx2 hx3 => hQ x hx1 hx3 (he2 x hx1 hx2 hx3), he3⟩)
    (fun st a s _ ⟨h1, h2, h3, h4⟩ => ⟨h1, h2, hS st a s h1 h2 h3, fun x hx1 hx2 =>
      hQ x hx1 (Nat.le_trans (Nat.le_of_lt hx2) h2) (h4 x hx1 hx2)⟩)

/-- at top level, where the table reaches beyond `limit`, "not present" speaks for all of
`[va, limit]` -/
theorem Post.np_all
    (hn : ∃ e, a = e % W ∧ (∀ x, va ≤ x → x < e → x ≤ limit → Q x) ∧
      (e = (va / T + 1) * T ∨ (limit < e ∧ e < W)))
    (hT : limit < (va / T + 1) * T) : ∀ x, va ≤ x → x ≤ limit → Q x := by
  obtain ⟨e, _, he2, he3⟩ := hn
  have hle : limit < e := by
    rcases he3 with he | he
    · rw [he]; exact hT
    · exact he.1
  exact fun x hx1 hx2 => he2 x hx1 (Nat.lt_of_le_of_lt hx2 hle) hx2

theorem post_onRec {k : Nat → Res} (hp : Post Q Stop limit T' va res)
    (hk : ∀ a s, Post Q Stop limit T' va (.done .notpresent a s) → Post Q Stop limit T va (k a)) :
    Post Q Stop limit T va (onRec k res) :=
  postG_onRec hp (fun a hn => hk a default (postG_np.2 hn)) (fun _ _ _ _ h => h)

end

theorem lt_W_of_div {x y p : Nat} (hp : p ≤ 64) (hy : y < W) (h : x / 2^p = y / 2^p) : x < W := by
  have hW : W = 2^(64-p) * 2^p := by
    show 2^64 = _
    rw [← Nat.pow_add]; congr 1; omega
  have hpos : 0 < (2:Nat)^p := Nat.two_pow_pos p
  have h1 : y / 2^p < 2^(64-p) := by rw [Nat.div_lt_iff_lt_mul hpos, ← hW]; exact hy
  rw [← h, Nat.div_lt_iff_lt_mul hpos, ← hW] at h1
  exact h1

theorem or_next (addr p : Nat) : ((addr ||| (2^p - 1)) + 1) = (addr / 2^p + 1) * 2^p := by
  rw [or_mask, Nat.add_mul]
  have := Nat.two_pow_pos p
  omega

theorem entry_range {addr x p : Nat} (h1 : addr ≤ x) (h2 : x < (addr / 2^p + 1) * 2^p) :
    x / 2^p = addr / 2^p := by
  have hpos : 0 < (2:Nat)^p := Nat.two_pow_pos p
  rw [div_range hpos]
  exact ⟨Nat.le_trans ((div_range hpos).1 rfl).1 h1, h2⟩

theorem next_top (addr p : Nat) (h : addr / 2^p % 512 + 1 ≥ 512) :
    (addr / 2^p + 1) * 2^p = (addr / 2^(p+9) + 1) * 2^(p+9) := by
  rw [Nat.pow_add, ← Nat.div_div_eq_div_mul]
  generalize addr / 2^p = q at *
  have : q + 1 = (q / 2^9 + 1) * 2^9 := by
    show q + 1 = (q / 512 + 1) * 512
    omega
  rw [this, Nat.mul_assoc, Nat.mul_comm (2^9) (2^p)]

/-- `cont` of `lmLoop` / `luLoop` (`goto next` in C) -/
def contG (nelem : Nat) (loop : Step → Nat → Res) (s : Step) (a' : Nat) : Res :=
  let my1 := fillLow s (fun _ => 0)
  let i := s.remain - 1
  let v := (idxAt my1 i + 1) % W
  let my2 := setIdx my1 i v
  if v ≥ nelem then .done .notpresent a' s else loop my2 a'

def Translates (g : Sem) (x : Nat) : Prop := ∃ b, g x = .ok b

/-- where `lowest_unmapped` stops: at an address that is not present (status OK), or at a failing
table read -/
def StopLu (g : Sem) : XStatus → Nat → Step → Prop
  | .ok, a, _ => g a = .error .notpresent
  | e, a, _ => g a = .error e

theorem StopLu.err {g : Sem} {st : XStatus} {a : Nat} {s : Step} (h : st ≠ .ok)
    (hs : StopLu g st a s) : g a = .error st := by
  cases st <;> first | exact absurd rfl h | exact hs

theorem StopLu.congr {g g' : Sem} {st : XStatus} {a : Nat} {s : Step} (h : g' a = g a) :
    StopLu g st a s → StopLu g' st a s := by
  cases st <;> simp only [StopLu, h, imp_self]

theorem lmLoop_succ (sf : StepFn) (limit nelem tblmask : Nat) (rec : Step → Nat → Res) (k : Nat)
    (s : Step) (addr : Nat) :
    lmLoop sf limit nelem tblmask rec (k+1) s s addr =
      if addr ≤ limit then
        match sf s with
        | .ok s1 =>
          if s1.remain ≤ 1 then
            match sf s1 with
            | .ok s2 => .done .ok addr s2
            | .error e => .done e addr s1
          else
            onRec (contG nelem (fun my a => lmLoop sf limit nelem tblmask rec k my my a) s)
              (rec s1 addr)
        | .error .notpresent =>
          contG nelem (fun my a => lmLoop sf limit nelem tblmask rec k my my a) s
            (((addr ||| tblmask) + 1) % W)
        | .error e => .done e addr s
      else .done .notpresent addr s := rfl

theorem luLoop_succ (sf : StepFn) (limit nelem tblmask : Nat) (rec : Step → Nat → Res) (k : Nat)
    (s : Step) (addr : Nat) :
    luLoop sf limit nelem tblmask rec (k+1) s s addr =
      if addr ≤ limit then
        match sf s with
        | .error .notpresent => .done .ok addr s
        | .error e => .done e addr s
        | .ok s1 =>
          if s1.remain > 1 then
            onRec (contG nelem (fun my a => luLoop sf limit nelem tblmask rec k my my a) s)
              (rec s1 addr)
          else contG nelem (fun my a => luLoop sf limit nelem tblmask rec k my my a) s
            (((addr ||| tblmask) + 1) % W)
      else .done .notpresent addr s := rfl

section
variable (c : ScanCfg) (hpf : XF c.pf)
include hpf

/-- `q`: the number of the current entry; zeroing the lower indices and incrementing the current one
gives the state of the first address of entry `q + 1` -/
theorem at_next {addr r p q : Nat} {s : Step} (h : At c addr r s)
    (h2 : 2 ≤ r) (hn : r ≤ c.n) (haddr : addr < W) (hc : idxAt s (r-1) + 1 < 512)
    (hp : c.sb (r-1) = p) (hq : addr / 2^p = q) :
    At c ((q + 1) * 2^p) r (setIdx (fillLow s (fun _ => 0)) (r-1) (idxAt s (r-1) + 1)) ∧
    (q + 1) * 2^p / 2^(c.sb r) = addr / 2^(c.sb r) ∧ (q + 1) * 2^p < W ∧
    (q + 1) * 2^p % 4096 = 0 ∧ (q + 1) * 2^p / 2^p % 512 = q % 512 + 1 := by
  have hn' : r ≤ c.pf.fieldsz.length := hn
  have hr : r ≤ 9 ∧ r - 1 < c.pf.fieldsz.length ∧ 1 ≤ r - 1 := by have := xf_len hpf; omega
  obtain ⟨hsb, h12, h64⟩ := sb_succ c hpf h2 hn
  have hcur := idx_cur c hpf h h2 hn
  rw [hp] at hsb h12 hcur
  rw [hq] at hcur
  obtain ⟨hd1, hd2⟩ := succ_digit (hcur ▸ hc)
  have heE : (q + 1) * 2^p / 2^p = q + 1 := Nat.mul_div_cancel _ (Nat.two_pow_pos p)
  have hT : (q + 1) * 2^p / 2^(c.sb r) = addr / 2^(c.sb r) := by
    rw [hsb, Nat.pow_add, ← Nat.div_div_eq_div_mul, ← Nat.div_div_eq_div_mul, heE, hq]
    exact hd1
  refine ⟨h.move h2 hr.1 hT ?_ fun i hi => ?_, hT, lt_W_of_div h64 haddr hT,
    mod_of_mul_pow h12, by rw [heE]; exact hd2.symm⟩
  · rw [hp, heE, xf_fld hpf hr.2.1 hr.2.2, hcur]
    exact hd2
  · have hs : spanBits c.pf.fieldsz (i+1) ≤ p := hp ▸ span_mono _ hi
    rw [span_succ] at hs
    exact (idx_low_zero (q + 1) p _ _ hs).symm

/-- the current entry (or the table below it) has answered "not present" with `a'`: the loop goes to
the next entry with that address -/
theorem cont_post {Q : Nat → Prop} {Stop : XStatus → Nat → Step → Prop}
    {limit : Nat} (hlim : limit < W) {addr r : Nat} {s : Step} (h : At c addr r s) (h2 : 2 ≤ r)
    (hn : r ≤ c.n) (hal : addr ≤ limit) {k : Nat}
    (hk : 512 ≤ addr / 2^(c.sb (r-1)) % 512 + (k + 1))
    {loop : Step → Nat → Res}
    (hloop : ∀ my a, At c a r my → a ≤ limit → a % 4096 = 0 →
      512 ≤ a / 2^(c.sb (r-1)) % 512 + k → Post Q Stop limit (2^(c.sb r)) a (loop my a))
    (hgt : 1 ≤ k → ∀ my a, limit < a → loop my a = .done .notpresent a my)
    (a' : Nat) (s' : Step)
    (hnp : Post Q Stop limit (2^(c.sb (r-1))) addr (.done .notpresent a' s')) :
    Post Q Stop limit (2^(c.sb r)) addr (contG 512 loop s a') := by
  obtain ⟨e, ha', hQ, he⟩ := postG_np.1 hnp
  have hsb := (sb_succ c hpf h2 hn).1
  have hcur := idx_cur c hpf h h2 hn
  have hfl : idxAt (fillLow s (fun _ => 0)) (s.remain - 1) = idxAt s (r-1) := by
    rw [idxAt_fillLow, h.rem]; simp
  have hv : (idxAt s (r-1) + 1) % W = idxAt s (r-1) + 1 := by
    rw [hcur]
    exact Nat.mod_eq_of_lt
      (Nat.lt_trans (Nat.succ_lt_succ (Nat.mod_lt _ (by decide))) (by decide))
  unfold contG
  simp only [hfl, hv]
  by_cases hge : idxAt s (r-1) + 1 ≥ 512
  · rw [if_pos hge]
    refine postG_np.2 ⟨e, ha', hQ, he.imp_left fun he => ?_⟩
    rw [he, hsb]
    exact next_top addr _ (by rw [← hcur]; exact hge)
  · rw [if_neg hge, h.rem]
    have hk1 : 1 ≤ k := Nat.pos_of_ne_zero fun h0 => hge (by rw [hcur]; rw [h0] at hk; exact hk)
    obtain ⟨hat, hT, heW, h4096, hdig⟩ :=
      at_next c hpf h h2 hn (Nat.lt_of_le_of_lt hal hlim) (Nat.lt_of_not_ge hge) rfl rfl
    have hlt : addr < (addr / 2^(c.sb (r-1)) + 1) * 2^(c.sb (r-1)) :=
      ((div_range (Nat.two_pow_pos _)).1 rfl).2
    by_cases hel : e ≤ limit
    · -- the next entry starts inside the interval: the loop goes on there
      have he' := he.resolve_right (fun hh => absurd hel (Nat.not_le.2 hh.1))
      subst he'
      rw [ha', Nat.mod_eq_of_lt heW]
      have hk' : 512 ≤ addr / 2^(c.sb (r-1)) % 512 + 1 + k := by
        rw [Nat.add_assoc, Nat.add_comm 1 k]; exact hk
      exact post_extend (hloop _ _ hat hel h4096 (by rw [hdig]; exact hk')) hT (Nat.le_of_lt hlt) hQ
    · -- beyond `limit` the loop ends at once
      have hel' : limit < e := Nat.lt_of_not_ge hel
      have heW' : e < W := by
        rcases he with he | he
        · rw [he]; exact heW
        · exact he.2
      rw [ha', Nat.mod_eq_of_lt heW', hgt hk1 _ e hel']
      exact postG_np.2 ⟨e, (Nat.mod_eq_of_lt heW').symm, hQ, Or.inr ⟨hel', heW'⟩⟩

variable (hmask : c.pteMask < W) (hmemok : ∀ as a sz, c.mem as a sz ≠ .error .ok) {limit : Nat}
  (hlim : limit < W)
include hmask hmemok hlim

theorem lmTbl_post :
    ∀ d r s addr, At c addr r s → 2 ≤ r → r ≤ c.n → r ≤ d → addr ≤ limit → addr % 4096 = 0 →
      Post (NotPresent (rootDescent c)) (StopAt 0 (rootDescent c)) limit (2^(c.sb r)) addr
        (lmTbl c.sf c.pf limit d s addr) := by
  intro d
  induction d with
  | zero => intro r s addr _ h2 _ hd; omega
  | succ d ih =>
    intro r s addr h h2 hn hd hal h4096
    obtain ⟨hsz, hm⟩ := tbl_consts c hpf h2 hn
    have hne : ¬ r = 0 := by omega
    rw [lmTbl]
    simp only [h.rem, hne, if_false, hsz, hm]
    -- the loop over the entries of this table; `k` bounds the entries still to visit
    suffices hloop : ∀ k s addr, At c addr r s → addr ≤ limit → addr % 4096 = 0 →
        512 ≤ addr / 2^(c.sb (r-1)) % 512 + k →
        Post (NotPresent (rootDescent c)) (StopAt 0 (rootDescent c)) limit (2^(c.sb r)) addr
          (lmLoop c.sf limit 512 (2^(c.sb (r-1)) - 1) (lmTbl c.sf c.pf limit d) k s s addr) from
      hloop 513 s addr h hal h4096 (Nat.le_trans (by decide) (Nat.le_add_left 513 _))
    intro k
    induction k with
    | zero =>
      intro s addr _ _ _ hk
      omega
    | succ k ihk =>
      intro s addr h hal h4096 hk
      rw [lmLoop_succ, if_pos hal]
      have hcont := cont_post c hpf hlim h h2 hn hal hk ihk
        (fun hk1 my a hla => by
          cases k with
          | zero => cases hk1
          | succ k => rw [lmLoop_succ, if_neg (Nat.not_le.2 hla)])
      rcases stepCase c hpf hmask hmemok addr r s h h2 hn with
        ⟨e, hsf, hne, hall⟩ | ⟨s1, s2, h1, hr, h2', _, hva⟩ | ⟨s1, h1, hat, hr, hrem⟩
      · rw [hsf]
        cases e with
        | ok => exact absurd rfl hne
        | notpresent =>
          exact hcont _ s (postG_np.2
            ⟨_, by rw [or_next], fun x hx1 hx2 _ => hall x (entry_range hx1 hx2), Or.inl rfl⟩)
        | _ =>
          exact post_here (by decide) hal (hall addr rfl)
      · rw [h1]
        simp only [hr, Nat.le_refl, if_true, h2']
        exact post_here (by decide) hal (And.intro h4096 hva)
      · rw [h1]
        simp only [Nat.not_le.2 hrem, if_false]
        exact post_onRec (ih (r-1) s1 addr hat (Nat.le_sub_one_of_lt hr) (Nat.le_trans (Nat.sub_le _ _) hn)
          (Nat.sub_le_of_le_add hd) hal h4096) hcont

theorem luTbl_post :
    ∀ d r s addr, At c addr r s → 2 ≤ r → r ≤ c.n → r ≤ d → addr ≤ limit → addr % 4096 = 0 →
      Post (Translates (rootDescent c)) (StopLu (rootDescent c)) limit (2^(c.sb r)) addr
        (luTbl c.sf c.pf limit d s addr) := by
  intro d
  induction d with
  | zero => intro r s addr _ h2 _ hd; omega
  | succ d ih =>
    intro r s addr h h2 hn hd hal h4096
    obtain ⟨hsz, hm⟩ := tbl_consts c hpf h2 hn
    have hne : ¬ r = 0 := by omega
    rw [luTbl]
    simp only [h.rem, hne, if_false, hsz, hm]
    suffices hloop : ∀ k s addr, At c addr r s → addr ≤ limit → addr % 4096 = 0 →
        512 ≤ addr / 2^(c.sb (r-1)) % 512 + k →
        Post (Translates (rootDescent c)) (StopLu (rootDescent c)) limit (2^(c.sb r)) addr
          (luLoop c.sf limit 512 (2^(c.sb (r-1)) - 1) (luTbl c.sf c.pf limit d) k s s addr) from
      hloop 513 s addr h hal h4096 (Nat.le_trans (by decide) (Nat.le_add_left 513 _))
    intro k
    induction k with
    | zero =>
      intro s addr _ _ _ hk
      omega
    | succ k ihk =>
      intro s addr h hal h4096 hk
      rw [luLoop_succ, if_pos hal]
      have hcont := cont_post c hpf hlim h h2 hn hal hk ihk
        (fun hk1 my a hla => by
          cases k with
          | zero => cases hk1
          | succ k => rw [luLoop_succ, if_neg (Nat.not_le.2 hla)])
      rcases stepCase c hpf hmask hmemok addr r s h h2 hn with
        ⟨e, hsf, hne, hall⟩ | ⟨s1, s2, h1, hr, _, hall, _⟩ | ⟨s1, h1, hat, hr, hrem⟩
      · rw [hsf]
        cases e with
        | ok => exact absurd rfl hne
        | _ =>
          exact post_here (by decide) hal (hall addr rfl)
      · rw [h1]
        simp only [show ¬ s1.remain > 1 by rw [hr]; decide, if_false]
        exact hcont _ s (postG_np.2
          ⟨_, by rw [or_next], fun x hx1 hx2 _ => hall x (entry_range hx1 hx2), Or.inl rfl⟩)
      · rw [h1]
        simp only [show s1.remain > 1 from hrem, if_true]
        exact post_onRec (ih (r-1) s1 addr hat (Nat.le_sub_one_of_lt hr) (Nat.le_trans (Nat.sub_le _ _) hn)
          (Nat.sub_le_of_le_add hd) hal h4096) hcont

end

end Kdf.Lemmas.Scan
