import Kdf.Lemmas.Aarch64
import Kdf.Lemmas.PgtSim
/-!
# C02 for AArch64: model of `addrxlat_walk` with `pgt_aarch64`, `pgt_aarch64_lpa`,
`pgt_aarch64_lpa2` = architectural specification (`Kdf/Spec/ArchAarch64.lean`)

`stepSim_aarch64`: the handlers follow `decodeAarch64` on every form with `FormOK`
(`Kdf/Lemmas/Aarch64.lean`); the walk is then `walkLoop_descend`.
-/
open Kdf.Model.Pgt Kdf.Model.PgtAarch64 Kdf.Spec.ArchWalk Kdf.Spec.ArchAarch64 Kdf.Lemmas.Aarch64 Kdf.Lemmas.PgtWalk

namespace Kdf.Props.C02Aarch64

theorem table_bit_iff {pte : Nat} (h : ¬ pte % 2 = 0) : pte / 2 % 2 = 1 ↔ ¬ pte % 4 = 1 := by omega

open Kdf.Lemmas.Pgt in
theorem stepSim_aarch64 (l : Layout) (mem : Mem) (t pteMask : Nat) (pf : PagingForm) (va : Nat)
    (hl : layoutOf pf.fmt = some l) (hok : FormOK l pf) (hmask : pteMask < W) :
    StepSim (decodeAarch64 l pf.fieldsz) mem t pteMask pf 8 va := by
  have hg := granule_cases hok.granule
  have hg48 : pf.fieldsz.getD 0 0 ≤ 48 := by omega
  have hpm := pageMask_eq pf (by omega)
  refine stepSim_of_body (fun s => nextStepPgt_eq l mem t pteMask pf s hl) hmask ?_
  intro s1 raw pte h1 hn hidx _ _
  obtain ⟨r, hrem⟩ : ∃ r, s1.remain = r + 1 := ⟨s1.remain - 1, by omega⟩
  have hr : r + 1 < pf.fieldsz.length := hrem ▸ hn
  have hsp52 := hok.span_le (r + 1) (Nat.le_of_lt hr)
  have hTM := tableMask_eq pf (r + 1) (Nat.le_trans hsp52 (by decide))
  have hblk := hok.block_refused r hr
  have hbits1 : bits pte 0 1 = pte % 2 := by simp [bits]
  have hbits2 : bits pte 0 2 = pte % 4 := by simp [bits]
  simp only [handlerBody, tail, decodeAarch64, hbits1, hbits2, PTE_TYPE_BLOCK, hrem, hTM, hpm]
  by_cases hvalid : pte % 2 = 0
  · simp only [hvalid, if_true]; rfl
  · simp only [hvalid, if_false, table_bit_iff hvalid]
    by_cases hb4 : pte % 4 = 1
    · -- 0b01: block descriptor or reserved encoding
      simp only [hb4, not_true, if_true, if_false]
      by_cases hall : r + 1 ≠ 1 ∧ blockAllowed l (pf.fieldsz.getD 0 0) (r + 1) = true
      · have hcond : ¬ (r + 1 = 1 ∨ 2 ^ spanBits pf.fieldsz (r + 1) - 1 > addrMask (regionBits l)) :=
          fun h => (hblk.1 h) hall
        simp only [if_pos hall, hcond, if_false,
          addr_eq l pte (spanBits pf.fieldsz (r + 1)) (hok.block_span r hr hall)]
        exact simRes_huge rfl (Nat.le_add_left 1 r) (Nat.le_of_lt hr) hidx
          (Nat.le_trans (hok.span_le _ (Nat.le_refl _)) (by decide)) rfl
      · simp only [if_neg hall, hblk.2 hall, if_true]; rfl
    · -- 0b11: table or page descriptor
      simp only [hb4, not_false_eq_true, if_true, if_false, addr_eq l pte (pf.fieldsz.getD 0 0) hg48]
      cases r with
      | zero =>
        simp only [Nat.zero_add, if_true]
        exact ⟨_, rfl, rfl, rfl, rfl, idxAt_zero hidx (Nat.le_of_lt hr)⟩
      | succ r =>
        have hne : ¬ (r + 1 + 1 = 1) := by omega
        simp only [hne, if_false]
        exact ⟨by omega, _, rfl, rfl, rfl, rfl, rfl⟩

theorem walk_eq_spec_of_formOK (mem : Mem) (t : Nat) (root : FullAddr) (pteMask : Nat) (pf : PagingForm)
    (va : Nat) (l : Layout) (hl : layoutOf pf.fmt = some l) (hok : FormOK l pf) (hmask : pteMask < W)
    (hrange : root.as ≠ NOADDR → vaInRange (spanBits pf.fieldsz pf.fieldsz.length) va = true) :
    (walk Kdf.Model.PgtArch.extra mem (.pgt t root pteMask pf) va).map (·.base)
      = specAarch64 mem t root pteMask pf va := by
  have hlen := hok.len
  have hfirst : firstStep (.pgt t root pteMask pf) va = firstStepPgtGeneric root pf va ∧
      ptevalShift pf.fmt = some 3 := by
    rcases fmt_cases hl with h | h | h <;> simp only [firstStep, h, ptevalShift, and_self]
  unfold walk specAarch64
  rw [hfirst.1]
  simp only [hl]
  by_cases hno : root.as = NOADDR
  · simp only [firstStepPgtGeneric, hno, if_true]; rfl
  · have hne : ¬ pf.fieldsz.length = 0 := by omega
    simp only [hrange hno, Bool.not_true, Bool.false_eq_true, if_false, hno, firstStepPgtGeneric, hne]
    apply Kdf.Lemmas.Pgt.walkLoop_descend _ mem t root pteMask pf 8 va
      (stepSim_aarch64 l mem t pteMask pf va hl hok hmask) (pf.fieldsz.length - 1) _ _ (by omega)
      (by show pf.fieldsz.length = _; omega) (by omega) _ (idxOK_first pf va hok.field_lt)
    show (if pf.fieldsz.length > 1 then _ else 1) = _
    rw [if_pos (by omega), if_neg (by omega), hfirst.2]

/-- **C02 for AArch64.**  On every paging form the architecture defines for the
formats `aarch64`, `aarch64_lpa`, `aarch64_lpa2`, for every memory, table base,
PTE mask and input address outside the one documented deviation class (`vaRange`), the model of
`addrxlat_walk` (generic step machinery + `pgt_aarch64*`) returns exactly what
the architectural specification returns. -/
theorem walk_eq_spec_aarch64 (mem : Mem) (t : Nat) (root : FullAddr) (pteMask : Nat) (pf : PagingForm)
    (va : Nat) (hform : archFormAarch64 pf = true) (_hva : va < W) (_hroot : root.addr < W)
    (hmask : pteMask < W) (hmem : ∀ as a sz v, mem as a sz = .ok v → v < 2^(8*sz))
    (hdev : knownDeviation mem t root pteMask pf va = false) :
    (walk Kdf.Model.PgtArch.extra mem (.pgt t root pteMask pf) va).map (·.base)
      = specAarch64 mem t root pteMask pf va := by
  have _ := hmem
  obtain ⟨l, hl⟩ : ∃ l, layoutOf pf.fmt = some l := by
    cases h : layoutOf pf.fmt with
    | some l => exact ⟨l, rfl⟩
    | none => simp [archFormAarch64, h] at hform
  refine walk_eq_spec_of_formOK mem t root pteMask pf va l hl (formOK_of_arch pf l hl hform) hmask
    (fun hno => ?_)
  -- outside the class `vaRange` the address is in range
  simp only [knownDeviation, knownDeviations, hno, if_false, List.isEmpty_iff, Bool.not_eq_false'] at hdev
  by_cases h : devVaRange pf va = true
  · simp [h] at hdev
  · simpa [devVaRange] using h

end Kdf.Props.C02Aarch64
