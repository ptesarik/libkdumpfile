import Kdf.Model.Attr
import Kdf.Lemmas.Attr
/-!
# C13 — the attribute tree behaves like a typed hierarchical dictionary

Theorems about `Kdf.Model.Attr` (the transcription of attr.c that the `attr`
correspondence stream ties to the C code on every run).  All statements are
over every store `st` (any list of nodes, any hash function `h`, any
dictionaries).  The set/clear/re-open laws need no well-formedness hypothesis,
because the model addresses nodes by identifier and the operations are maps and
filters over the node list; the iteration law needs distinct identifiers, which
`new_attr` preserves (`newAttr_wf`).

What is proved / what is only observed is listed in corpus/REPORT_C13.txt.
-/
namespace Kdf.Props.C13
open Kdf.Model.Attr Kdf.Lemmas.Attr

/-- What `get` (by path, by reference, by sub-reference or through an iterator
    position — they all end in the same node) reports for node `i`. -/
def getById (st : St) (i : Nat) : Option (Bool × Ty × String) :=
  (st.get i).map (fun n => (n.isset, n.ty, n.val))

/-- What `set_attr` leaves at `i`, whether or not instantiate_path had marked it. -/
theorem setPlain_get (st : St) (i : Nat) (p : Bool) (v : String) (n : Node) (hn : st.get i = some n) :
    (setPlain st i p v).get i =
      some { n with isset := true, persist := p, val := if n.ty == .dir then n.val else v } := by
  obtain ⟨g, hg, e⟩ := find_instantiate st.next st.nodes n.parent i
  unfold setPlain
  rw [hn]
  simp only [St.get]
  rw [find_upd_self _ _ _ (by intro n; rfl), e, show find st.nodes i = some n from hn]
  rcases hg n with h | h <;> simp [h]

/-- **get after set.**  After the attribute part of `set_attr` on a leaf, the
    node is set, carries exactly the new value and the requested persistence,
    and keeps its type and key. -/
theorem get_after_set (st : St) (i : Nat) (p : Bool) (v : String) (n : Node)
    (hn : st.get i = some n) (hty : n.ty ≠ .dir) :
    ((setPlain st i p v).get i).map (fun m => (m.isset, m.persist, m.val, m.ty, m.key, m.parent)) =
      some (true, p, v, n.ty, n.key, n.parent) := by
  rw [setPlain_get st i p v n hn]
  simp [hty]

/-- **frame of set.**  Setting `i` changes no other node except that unset
    ancestors become set: type, value, persistence, key, parent of every other
    node are untouched, and nothing that was set becomes unset. -/
theorem set_frame (st : St) (i j : Nat) (p : Bool) (v : String) (hij : j ≠ i) :
    ((setPlain st i p v).get j).map strip = (st.get j).map strip ∧
    (∀ m, st.get j = some m → m.isset = true →
      ∃ m', (setPlain st i p v).get j = some m' ∧ m'.isset = true) := by
  unfold setPlain
  cases hn : st.get i with
  | none => exact ⟨rfl, fun m h hs => ⟨m, h, hs⟩⟩
  | some n =>
    obtain ⟨g, hg, e⟩ := find_instantiate st.next st.nodes n.parent j
    simp only [St.get]
    rw [find_upd_ne _ _ _ (by intro n; rfl) _ hij, e]
    constructor
    · cases find st.nodes j with
      | none => rfl
      | some m => rcases hg m with h | h <;> simp [h, strip]
    · intro m h hs
      rw [h]
      refine ⟨g m, rfl, ?_⟩
      rcases hg m with h' | h'
      · rw [h']; exact hs
      · rw [h']

/-- **wrong type.**  `check_set_attr` with a value whose type differs from the
    attribute's type is refused with `invalid` and leaves the store as it was. -/
theorem set_wrong_type_noop (h : HashFn) (st : St) (dict i : Nat) (tok blob : String) (n : Node)
    (hn : st.get i = some n) (hnil : tyOfTok tok ≠ .nil) (hty : tyOfTok tok ≠ n.ty) :
    checkSet h st dict i tok blob = (st, .invalid) := by
  unfold checkSet
  rw [hn]
  simp [hnil, hty]

/-- **clear.**  After `clear_attr(a)` every remaining node that was `a` or
    below `a` reports no value. -/
theorem clear_subtree_unset (st : St) (a : Nat) :
    ∀ m ∈ (clearAttr st a).nodes, isUnder st.nodes a st.next m.id = true → m.isset = false :=
  fun m hm => (mem_sweep st (isUnder st.nodes a st.next) _ m hm).1

/-- **frame of clear.**  A node that is not below `a` is either untouched or
    (only when the subtree holds a VMCOREINFO blob) deallocated. -/
theorem clear_frame (st : St) (a : Nat) :
    ∀ m ∈ (clearAttr st a).nodes, isUnder st.nodes a st.next m.id = false → m ∈ st.nodes :=
  fun m hm => (mem_sweep st (isUnder st.nodes a st.next) _ m hm).2

/-- **re-open drops file-derived values.**  After `clear_volatile` a node of the
    tree without a persistent node in its subtree reports no value. -/
theorem volatile_dropped (st : St) (root : Nat) :
    ∀ m ∈ (clearVolatile st root).nodes, isUnder st.nodes root st.next m.id = true →
      keeps st.nodes st.next m.id = false → m.isset = false :=
  fun m hm hu hk =>
    (mem_sweep st (fun i => isUnder st.nodes root st.next i && !keeps st.nodes st.next i) _ m hm).1
      (by rw [hu, hk]; rfl)

/-- **a failed open leaves nothing volatile behind** (the teardown of `open_dump`): after `openFdFailed`
    every node below the root that has no persistent node in its subtree is unset. -/
theorem failed_open_drops_volatile (h : HashFn) (st : St) (dict : Nat) (fdTok : String) (prov : List Provided)
    (root : Nat) (hr : rootOf (openFd h st dict fdTok prov) dict = some root) :
    let s := openFd h st dict fdTok prov
    ∀ m ∈ (openFdFailed h st dict fdTok prov).nodes, isUnder s.nodes root s.next m.id = true →
      keeps s.nodes s.next m.id = false → m.isset = false := by
  intro s m hm hu hk
  have : openFdFailed h st dict fdTok prov = clearVolatile s root := by
    unfold openFdFailed; simp only [s] at *; rw [hr]
  rw [this] at hm
  exact volatile_dropped s root m hm hu hk

/-- **re-open keeps application values.**  A node with a persistent node in
    its subtree (in particular every persistent node) survives `clear_volatile`
    unchanged — value, flags and all — unless a VMCOREINFO blob that went away
    took it along. -/
theorem persist_across_reopen (st : St) (root : Nat) :
    ∀ m ∈ (clearVolatile st root).nodes, keeps st.nodes st.next m.id = true → m ∈ st.nodes :=
  fun m hm hk =>
    (mem_sweep st (fun i => isUnder st.nodes root st.next i && !keeps st.nodes st.next i) _ m hm).2
      (by rw [hk]; exact Bool.and_false _)

/-- **the path to a persistent attribute is kept**: every ancestor-or-self `i`
    of a persistent node counts as kept. -/
theorem ancestors_kept (ns : List Node) (fuel i : Nat) (m : Node) (hm : m ∈ ns)
    (hp : m.persist = true) (hu : isUnder ns i fuel m.id = true) : keeps ns fuel i = true := by
  unfold keeps
  rw [List.any_eq_true]
  exact ⟨m, List.mem_filter.mpr ⟨hm, hp⟩, hu⟩

/-- Keys met when walking `k` steps up from `d`, and the node reached. -/
def walkUp (ns : List Node) : Nat → Nat → Option (List String × Nat)
  | 0, d => some ([], d)
  | k + 1, d =>
    match find ns d with
    | none => none
    | some n =>
      match n.parent with
      | none => none
      | some p => (walkUp ns k p).map (fun (ks, a) => (n.key :: ks, a))

theorem keycmpGo_walk (ns : List Node) : ∀ (cs : List String) (d a : Nat),
    keycmpGo ns cs d = some a → walkUp ns cs.length d = some (cs, a)
  | [], d, a, h => by cases h; rfl
  | c :: cs, d, a, h => by
    unfold keycmpGo at h
    simp only [List.length_cons, walkUp]
    cases hf : find ns d with
    | none => rw [hf] at h; cases h
    | some n =>
      rw [hf] at h
      dsimp only at h ⊢
      by_cases hk : (n.key == c) = true
      · rw [if_pos hk] at h
        cases hp : n.parent with
        | none => rw [hp] at h; cases h
        | some p =>
          rw [hp] at h
          dsimp only at h ⊢
          rw [keycmpGo_walk ns cs p a h, beq_iff_eq.mp hk]
          rfl
      · rw [if_neg hk] at h; cases h

/-- **lookups are sound.**  Whatever a hash bucket scan returns — for every
    hash function, every bucket content — is a node of the searched dictionary
    whose chain of keys, walking up, spells the looked-up path and ends in a
    node with the template of the base directory: a lookup by path, by
    sub-path of a reference or during path creation can never hand out an
    attribute stored under another name. -/
theorem lookup_sound (ns : List Node) (dict hv tmpl : Nat) (comps : List String) (r : Nat)
    (h : lookupIn ns dict hv tmpl comps = some r) :
    ∃ n a an, n ∈ ns ∧ n.id = r ∧ n.dict = dict ∧ n.hidx = hv ∧
      walkUp ns (effComps comps).length r = some ((effComps comps).reverse, a) ∧
      find ns a = some an ∧ an.tmpl = tmpl := by
  obtain ⟨n, hf, rfl⟩ := Option.map_eq_some_iff.mp h
  have hp := List.find?_some hf
  simp only [Bool.and_eq_true, beq_iff_eq] at hp
  obtain ⟨⟨hd, hh⟩, hk⟩ := hp
  unfold keycmp at hk
  cases hg : keycmpGo ns (effComps comps).reverse n.id with
  | none => simp [hg] at hk
  | some a =>
    simp only [hg] at hk
    cases ha : find ns a with
    | none => simp [ha] at hk
    | some an =>
      simp only [ha, beq_iff_eq] at hk
      have hw := keycmpGo_walk ns _ _ _ hg
      rw [List.length_reverse] at hw
      exact ⟨n, a, an, List.mem_of_find?_eq_some hf, rfl, hd, hh, hw, ha, hk⟩

/-- **a clone falls back to the original.**  What a private dictionary does
    not hold itself is looked up in the dictionary it was cloned from, with the
    same arguments: everything that is not a private copy is the original's
    node, hence seen identically. -/
theorem clone_falls_back (st : St) (hv tmpl : Nat) (comps : List String) (f dict fb : Nat)
    (hpriv : lookupIn st.nodes dict hv tmpl comps = none)
    (hfb : (st.dicts[dict]?).bind (·.fallback) = some fb) :
    lookupChain st hv tmpl comps true (f + 1) dict = lookupChain st hv tmpl comps true f fb := by
  simp [lookupChain, hpriv, hfb]

/-- … and what it does hold privately shadows the original. -/
theorem clone_private_first (st : St) (hv tmpl : Nat) (comps : List String) (fbk : Bool) (f dict r : Nat)
    (hpriv : lookupIn st.nodes dict hv tmpl comps = some r) :
    lookupChain st hv tmpl comps fbk (f + 1) dict = some r := by
  simp [lookupChain, hpriv]

/-- **iteration.**  In a store whose node identifiers are distinct, a whole
    iteration over a set directory (iter_start, then iter_next until the end)
    visits exactly the children that have a value, each exactly once, in
    sibling-list order. -/
theorem iter_each_set_child_once (st : St) (d : Nat) (dn : Node)
    (hnd : (st.nodes.map (·.id)).Nodup)
    (hd : st.get d = some dn) (hset : dn.isset = true) (hdir : dn.ty = .dir) :
    iterAll st d = ((children st.nodes d).filter (·.isset)).map (·.id) ∧
    (iterAll st d).Nodup := by
  have h1 : iterAll st d = ((children st.nodes d).filter (·.isset)).map (·.id) := by
    unfold iterAll iterStart
    rw [hd]
    simp only [hset, hdir, Bool.not_true, Bool.false_eq_true, if_false, bne_self_eq_false]
    exact iterFrom_enum st hnd d st.nodes [] st.nodes.length rfl (Nat.le_refl _)
  refine ⟨h1, ?_⟩
  rw [h1]
  exact ((List.filter_sublist.trans List.filter_sublist).map _).nodup hnd

/-- **identifiers stay distinct.**  `new_attr` (the only operation that adds a
    node; all others map or filter the node list) keeps the hypothesis of
    `iter_each_set_child_once`. -/
theorem newAttr_wf (h : HashFn) (st : St) (dict : Nat) (parent : Option Nat) (key : String) (ty : Ty)
    (tmpl : Option Nat) (hook : Hook) (fidx : Nat)
    (hlt : ∀ n ∈ st.nodes, n.id < st.next) (hnd : (st.nodes.map (·.id)).Nodup) :
    (∀ n ∈ (newAttr h st dict parent key ty tmpl hook fidx).1.nodes,
        n.id < (newAttr h st dict parent key ty tmpl hook fidx).1.next) ∧
    ((newAttr h st dict parent key ty tmpl hook fidx).1.nodes.map (·.id)).Nodup := by
  simp only [newAttr, List.map_cons, List.nodup_cons, List.mem_cons, List.mem_map]
  refine ⟨?_, ?_, hnd⟩
  · intro n hn
    rcases hn with rfl | hn
    · simp
    · exact Nat.lt_succ_of_lt (hlt n hn)
  · rintro ⟨n, hn, he⟩
    have := hlt n hn
    omega

/-! ### allocation failure while the file set grows (num_files_pre_hook) -/

/-- the roll-back adds nothing -/
theorem numFiles_rollback_sub (st : St) (parent keep : Nat) :
    ∀ n ∈ (numFilesRollback st parent keep).nodes, n ∈ st.nodes :=
  fun n hn => (mem_foldl_dealloc _ st n hn).1

/-- **no stale slot.**  After the roll-back no slot directory `file.set.<N>`
    with `N ≥ keep` is left below `file.set` — whichever slots had been created
    completely or in part. -/
theorem numFiles_rollback_no_stale (st : St) (parent keep : Nat) (hnext : st.next ≠ 0) :
    ∀ c ∈ (numFilesRollback st parent keep).nodes, c.parent = some parent → c.ty = .dir → c.fidx < keep := by
  intro c hc hp hty
  refine Nat.lt_of_not_le fun hge => ?_
  obtain ⟨hin, hne⟩ := mem_foldl_dealloc _ st c hc
  have hv : c ∈ (children st.nodes parent).filter (fun c => c.ty == .dir && c.fidx ≥ keep) := by
    simp only [children, List.mem_filter]
    refine ⟨⟨hin, by simp [hp]⟩, ?_⟩
    simp [hty]
    omega
  exact hne hnext c hv rfl

/-- **an allocation failure while the file set grows leaves no slot behind.**
    `num_files_pre_hook` with a failing allocation in a new slot (the first new
    one or a later one, at the directory, its `fd` or its `name`) answers
    `system` and no slot directory numbered `cur` or higher exists afterwards:
    the keys `file.set.<cur>` … are unknown again, as before the call. -/
theorem numFiles_fail_no_stale (h : HashFn) (st : St) (dict : Nat) (attr : Node) (n cur slot stage parent : Nat)
    (hp : attr.parent = some parent) (hlt : cur + slot < n)
    (hnext : (numFilesPreFail h st dict attr n cur slot stage).1.next ≠ 0) :
    (numFilesPreFail h st dict attr n cur slot stage).2 = .system ∧
    ∀ c ∈ (numFilesPreFail h st dict attr n cur slot stage).1.nodes,
      c.parent = some parent → c.ty = .dir → c.fidx < cur := by
  unfold numFilesPreFail at hnext ⊢
  simp only [hp, hlt, if_true] at hnext ⊢
  refine ⟨trivial, ?_⟩
  apply numFiles_rollback_no_stale
  unfold numFilesRollback at hnext
  rw [foldl_dealloc_next] at hnext
  exact hnext

/-! ### a derived attribute answers the same through every getter -/

/-- **linux.version_code follows linux.uts.release.**  After the post-set hook
    of the release string, the node `linux.version_code` — the one node that a
    lookup by path, a reference, a sub-reference and an iterator position all
    end in — is set and carries KERNEL_VERSION of the NEW release: no getter
    can see the placeholder stored before revalidation. -/
theorem version_code_follows_release (st : St) (rel uts vc : Node) (val : String) (l : Nat)
    (h1 : rel.parent.bind st.get = some uts) (h2 : uts.parent = some l)
    (h3 : findChildKey st l "version_code" = some vc)
    (hv : st.get vc.id = some vc) (hty : vc.ty ≠ .dir) :
    getById (utsReleasePost st rel val) vc.id =
      some (true, vc.ty, "num:" ++ toString ((kernelVersion (tokStr val)).getD 0)) := by
  unfold utsReleasePost getById
  rw [h1]
  simp only [h2, Option.bind_some, h3]
  rw [setPlain_get st vc.id false _ vc hv]
  simp [hty]

example : kernelVersion "5.4.0-verif" = some 328704 := by decide
example : kernelVersion "6.12" = some 396288 := by decide
example : kernelVersion "6.9.300" = some 395775 := by decide
example : kernelVersion "x.1" = none := by decide

/-! ### the legacy alias `file.fd` of `file.set.0.fd` (num_files_post_hook, fdset_clear_hook, file_fd_post_hook) -/

/-- **a one-file set keeps its legacy descriptor**: the alias rule of `file.set.number` changes nothing when the new size is 1. -/
theorem numFilesAlias_one (h : HashFn) (st : St) (dict : Nat) : numFilesAlias h st dict 1 = st := by
  simp [numFilesAlias]

/-- **a set that is not one file has no legacy descriptor**: after the alias rule for a size other than 1 (0 = the set was
    emptied, or more than one file) `file.fd` reports no value. -/
theorem fileFd_unset_unless_one (h : HashFn) (st : St) (dict n a : Nat) (hn : n ≠ 1) (hnext : st.next ≠ 0)
    (ha : lookup h st dict (some "file.fd") = some a) :
    ∀ m ∈ (numFilesAlias h st dict n).nodes, m.id = a → m.isset = false := by
  intro m hm hid
  have hne : (n != 1) = true := by simp [bne_iff_ne, hn]
  unfold numFilesAlias at hm
  rw [if_pos hne] at hm
  unfold clearFileFd at hm
  rw [ha] at hm
  exact clear_subtree_unset st a m hm (by rw [hid]; exact isUnder_self _ _ _ hnext)

/-- **clearing slot 0 clears the alias**: when the cleared subtree holds `file.set.0.fd`, `file.fd` reports no value afterwards. -/
theorem clearHooked_clears_alias (h : HashFn) (st : St) (dict a f fd : Nat)
    (hf : lookup h st dict (some "file.set.0.fd") = some f) (hu : isUnder st.nodes a st.next f = true)
    (hfd : lookup h (clearAttr st a) dict (some "file.fd") = some fd) (hnext : (clearAttr st a).next ≠ 0) :
    ∀ m ∈ (clearHooked h st dict a).nodes, m.id = fd → m.isset = false := by
  intro m hm hid
  unfold clearHooked at hm
  simp only [hf, hu, if_true] at hm
  unfold clearFileFd at hm
  rw [hfd] at hm
  exact clear_subtree_unset _ fd m hm (by rw [hid]; exact isUnder_self _ _ _ hnext)

/-- **clearing elsewhere leaves the alias alone**: `clearHooked` is `clearAttr` when slot 0's descriptor is not in the subtree. -/
theorem clearHooked_frame (h : HashFn) (st : St) (dict a f : Nat)
    (hf : lookup h st dict (some "file.set.0.fd") = some f) (hu : isUnder st.nodes a st.next f = false) :
    clearHooked h st dict a = clearAttr st a := by
  unfold clearHooked
  simp [hf, hu]

/-- **the value set through `file.fd` is there afterwards** (file_fd_post_hook marks the alias as set): whatever the open did to the
    file set, every node that is `file.fd` reports a value after `setFileFd`. -/
theorem setFileFd_alias_set (h : HashFn) (st : St) (dict a : Nat) (tok : String) (prov : List Provided) (n : Node)
    (ha : lookup h st dict (some "file.fd") = some a) (hn : st.get a = some n) (hv : hasValue n tok = false) :
    ∀ m ∈ (setFileFd h st dict tok prov).nodes, m.id = a → m.isset = true := by
  intro m hm hid
  unfold setFileFd at hm
  rw [ha] at hm
  simp only [hn, hv, Bool.false_eq_true, if_false] at hm
  rw [upd, List.mem_map] at hm
  obtain ⟨m0, _, rfl⟩ := hm
  by_cases hc : (m0.id == a) = true
  · rw [if_pos hc]
  · rw [if_neg hc] at hid
    exact absurd (beq_iff_eq.mpr hid) hc

/-! ### non-vacuity: a concrete store (root, a directory with three children of which two are set) -/

def exNodes : List Node :=
  [ { id := 4, parent := some 1, key := "c", ty := .num, isset := true, persist := false, val := "num:3", dict := 0, tmpl := 4, hook := .none, hidx := 0, fidx := 0 },
    { id := 3, parent := some 1, key := "b", ty := .str, isset := false, persist := false, val := "", dict := 0, tmpl := 3, hook := .none, hidx := 0, fidx := 0 },
    { id := 2, parent := some 1, key := "a", ty := .num, isset := true, persist := true, val := "num:1", dict := 0, tmpl := 2, hook := .none, hidx := 0, fidx := 0 },
    { id := 1, parent := some 0, key := "dir", ty := .dir, isset := true, persist := false, val := "", dict := 0, tmpl := 1, hook := .none, hidx := 0, fidx := 0 },
    { id := 0, parent := none, key := "", ty := .dir, isset := true, persist := false, val := "", dict := 0, tmpl := 0, hook := .none, hidx := 0, fidx := 0 } ]

def exSt : St := { nodes := exNodes, next := 5, dicts := [{ root := 0, fallback := none }] }

/-- all keys collide in one bucket: the laws do not depend on the hash -/
def exHash : HashFn := fun _ => 0

example : (exSt.nodes.map (·.id)).Nodup := by decide
example : iterAll exSt 1 = [4, 2] := by decide
example : lookup exHash exSt 0 (some "dir.b") = some 3 := by decide
example : lookup exHash exSt 0 (some "dir.bb") = none := by decide
example : getById (setPlain exSt 3 true "str:41") 3 = some (true, .str, "str:41") := by decide
example : (checkSet exHash exSt 0 3 "num:5").2 = .invalid := by decide
example : (iterAll (clearAttr exSt 1) 0) = [] := by decide
example : getById (clearVolatile exSt 0) 4 = some (false, .num, "num:3") ∧
          getById (clearVolatile exSt 0) 2 = some (true, .num, "num:1") ∧
          getById (clearVolatile exSt 0) 1 = some (true, .dir, "") := by decide


/-- a file set without slots: root, `set` (the directory file.set), `number` (hook numFiles, stored number 0) -/
def exFsNum : Node :=
  { id := 2, parent := some 1, key := "number", ty := .num, isset := false, persist := false, val := "num:0", dict := 0, tmpl := 2, hook := .numFiles, hidx := 0, fidx := 0 }
def exFs : St :=
  { nodes := [ exFsNum,
      { id := 1, parent := some 0, key := "set", ty := .dir, isset := false, persist := false, val := "", dict := 0, tmpl := 1, hook := .none, hidx := 0, fidx := 0 },
      { id := 0, parent := none, key := "", ty := .dir, isset := true, persist := false, val := "", dict := 0, tmpl := 0, hook := .none, hidx := 0, fidx := 0 } ],
    next := 3, dicts := [{ root := 0, fallback := none }] }

-- growing to three files creates three slots of three nodes each
example : ((numFilesPre exHash exFs 0 exFsNum 3 0).1.nodes.length, (numFilesPre exHash exFs 0 exFsNum 3 0).2) = (12, Status.ok) := by decide
-- an allocation failure in the first new slot (directory created, `fd` not) or in the second one (`name` missing):
-- status system and the node list is the one before the call
example : ((numFilesPreFail exHash exFs 0 exFsNum 3 0 0 1).1.nodes.map (·.id), (numFilesPreFail exHash exFs 0 exFsNum 3 0 0 1).2) =
    ([2, 1, 0], Status.system) := by decide
example : (numFilesPreFail exHash exFs 0 exFsNum 3 0 1 2).1.nodes.map (·.id) = exFs.nodes.map (·.id) := by decide
example : (numFilesPreFail exHash exFs 0 exFsNum 3 0 2 0).1.nodes.map (·.id) = exFs.nodes.map (·.id) := by decide
-- without the roll-back the partial slot would stay
example : (numFilesPartial exHash exFs 0 1 0 2).nodes.length = 5 := by decide

end Kdf.Props.C13
