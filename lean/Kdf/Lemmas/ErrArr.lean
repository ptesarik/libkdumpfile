import Kdf.Lemmas.Err
/-! The byte arrays of `err_vadd` (C16) as lists: block writes, the NUL-terminated string inside
an array, what each write sequence leaves behind, the local buffer of the truncation branch. -/
namespace Kdf.Lemmas.Err
open Kdf.Model.Err

theorem wr_fold (bs : List Byte) : ∀ (a b c : List Byte) (bad : Bool) (i : Nat), bs.length = b.length → i = a.length →
    bs.foldl (fun (acc : List Byte × Bool × Nat) b =>
      let (a, bad, i) := acc
      if i < a.length then (a.set i b, bad, i+1) else (a, true, i+1)) (a ++ b ++ c, bad, i)
    = (a ++ bs ++ c, bad, i + bs.length) := by
  induction bs with
  | nil =>
    intro a b c bad i h _
    have : b = [] := List.length_eq_zero_iff.mp h.symm
    simp [this]
  | cons x bs ih =>
    intro a b c bad i h hi
    cases b with
    | nil => simp at h
    | cons y b =>
      simp only [List.length_cons, Nat.add_right_cancel_iff] at h
      have hlt : i < (a ++ y :: b ++ c).length := by simp; omega
      simp only [List.foldl_cons, hlt, if_true]
      have hs : (a ++ y :: b ++ c).set i x = (a ++ [x]) ++ b ++ c := by
        subst hi
        simp
      rw [hs, ih (a ++ [x]) b c bad (i+1) h (by simp [hi])]
      simp
      omega

theorem wr_mid (a b c bs : List Byte) (o : Nat) (ho : o = a.length) (h : bs.length = b.length) :
    wr (a ++ b ++ c) o bs = (a ++ bs ++ c, false) := by
  subst ho
  unfold wr
  rw [wr_fold bs a b c false a.length h rfl]

section
variable (arr : List Byte) (o : Nat) (bs : List Byte)

theorem wr_eq (h : o + bs.length ≤ arr.length) :
    wr arr o bs = (arr.take o ++ bs ++ arr.drop (o + bs.length), false) := by
  have harr : arr = arr.take o ++ (arr.drop o).take bs.length ++ arr.drop (o + bs.length) := by
    rw [List.append_assoc, ← List.drop_drop, List.take_append_drop, List.take_append_drop]
  conv => lhs; rw [harr]
  exact wr_mid _ _ _ bs o (by simp; omega) (by simp; omega)

theorem wr_len (h : o + bs.length ≤ arr.length) :
    (wr arr o bs).1.length = arr.length := by
  rw [wr_eq arr o bs h]; simp; omega

theorem wr_bad (h : o + bs.length ≤ arr.length) :
    (wr arr o bs).2 = false := by
  rw [wr_eq arr o bs h]

end

/-- `arr` holds the NUL-terminated string `s` at offset `o` -/
def HoldsCStr (arr : List Byte) (o : Nat) (s : List Byte) : Prop :=
  (∀ b ∈ s, b ≠ 0) ∧ ∃ pre suf, arr = pre ++ s ++ 0 :: suf ∧ pre.length = o

theorem HoldsCStr.get {arr o s} (h : HoldsCStr arr o s) (i : Nat) (hi : i < s.length) : arr[o+i]? = s[i]? := by
  obtain ⟨_, pre, suf, rfl, rfl⟩ := h
  rw [List.append_assoc, List.getElem?_append_right (by omega)]
  simp [List.getElem?_append_left hi]

theorem HoldsCStr.get_nul {arr o s} (h : HoldsCStr arr o s) : arr[o + s.length]? = some 0 := by
  obtain ⟨_, pre, suf, rfl, rfl⟩ := h
  rw [List.append_assoc, List.getElem?_append_right (by omega)]
  simp

theorem HoldsCStr.lt {arr o s} (h : HoldsCStr arr o s) : o + s.length < arr.length := by
  obtain ⟨_, pre, suf, rfl, rfl⟩ := h
  simp

theorem HoldsCStr.nz {arr o s} (h : HoldsCStr arr o s) : ∀ b ∈ s, b ≠ 0 := h.1

theorem HoldsCStr.pointwise {arr o s} (h : HoldsCStr arr o s) :
    ∃ n, o + n < arr.length ∧ arr[o + n]? = some 0 ∧ ∀ i, i < n → ∃ b, arr[o + i]? = some b ∧ b ≠ 0 :=
  ⟨s.length, h.lt, h.get_nul, fun i hi =>
    ⟨s[i], by rw [h.get i hi, List.getElem?_eq_getElem hi], h.nz _ (List.getElem_mem hi)⟩⟩

theorem HoldsCStr.of_pointwise {arr : List Byte} {o n : Nat} (h0 : arr[o+n]? = some 0)
    (hn : ∀ i, i < n → ∃ b, arr[o+i]? = some b ∧ b ≠ 0) : ∃ s, s.length = n ∧ HoldsCStr arr o s := by
  have hlt : o + n < arr.length := by
    rcases List.getElem?_eq_some_iff.mp h0 with ⟨h, _⟩; exact h
  refine ⟨(arr.drop o).take n, by simp; omega, ?_, arr.take o, arr.drop (o+n+1), ?_, by simp; omega⟩
  · intro b hb
    rcases List.mem_iff_getElem?.mp hb with ⟨i, hi⟩
    rw [List.getElem?_take] at hi
    split at hi
    · rw [List.getElem?_drop] at hi
      rcases hn i ‹_› with ⟨b', hb', hne⟩
      rw [hb'] at hi; cases hi; exact hne
    · cases hi
  · have h1 : arr.drop (o+n) = 0 :: arr.drop (o+n+1) := by
      rw [List.drop_eq_getElem_cons hlt]
      rcases List.getElem?_eq_some_iff.mp h0 with ⟨_, h⟩
      rw [h]
    rw [← h1, List.append_assoc, ← List.drop_drop, List.take_append_drop, List.take_append_drop]

theorem HoldsCStr.head_nul_iff {arr : List Byte} {o : Nat} {s : List Byte} (h : HoldsCStr arr o s) :
    arr[o]? = some 0 ↔ s = [] := by
  cases s with
  | nil => simpa using h.get_nul
  | cons x xs =>
    have h0 := h.get 0 (by simp)
    simp only [Nat.add_zero, List.getElem?_cons_zero] at h0
    have hx : x ≠ 0 := h.nz x (by simp)
    simp [h0, hx]

theorem split2 (l : List Byte) (k : Nat) (h : k ≤ l.length) :
    ∃ a b, l = a ++ b ∧ a.length = k ∧ b.length = l.length - k :=
  ⟨l.take k, l.drop k, (List.take_append_drop k l).symm, by simp; omega, by simp⟩

theorem nz_append {a b : List Byte} (ha : ∀ x ∈ a, x ≠ 0) (hb : ∀ x ∈ b, x ≠ 0) : ∀ x ∈ a ++ b, x ≠ 0 := by
  intro x hx
  rcases List.mem_append.mp hx with h | h
  · exact ha x h
  · exact hb x h

theorem nz_delim : ∀ x ∈ delim, x ≠ 0 := by decide

theorem MsgWF.nz {m : List Byte} (h : MsgWF m) : ∀ b ∈ m, b ≠ 0 := fun b hb => (h b hb).1

theorem HoldsCStr.write (arr : List Byte) (o : Nat) (s : List Byte) (hs : ∀ b ∈ s, b ≠ 0)
    (h : o + (s ++ [0]).length ≤ arr.length) : HoldsCStr (wr arr o (s ++ [0])).1 o s := by
  rw [wr_eq arr o _ h]
  exact ⟨hs, arr.take o, arr.drop (o + (s ++ [0]).length), by simp, by simp; omega⟩

/-- `msg` and its NUL first, then the delimiter over that NUL and the bytes up to the old text;
without old text the NUL of `msg` falls on the NUL that was there -/
theorem fit_arr (arr : List Byte) (pos n : Nat) (msg dl old : List Byte) (hm : ∀ b ∈ msg, b ≠ 0)
    (hd : ∀ b ∈ dl, b ≠ 0) (hn : dl.length = n) (h0 : dl = [] → old = [])
    (hs : HoldsCStr arr pos old) (hfit : msg.length + n ≤ pos) :
    HoldsCStr (wr (wr arr (pos - (msg.length + n)) (msg ++ [0])).1 (pos - n) dl).1
      (pos - (msg.length + n)) (msg ++ dl ++ old) := by
  have hlt := hs.lt
  cases dl with
  | nil =>
    subst hn
    rw [h0 rfl]
    simpa [wr] using HoldsCStr.write arr (pos - msg.length) msg hm (by simp; omega)
  | cons x dl =>
    obtain ⟨ho, pre, suf, rfl, hl⟩ := hs
    simp only [List.length_cons] at hn
    obtain ⟨p1, p23, rfl, h1, h2⟩ := split2 pre (pos - (msg.length + n)) (by omega)
    obtain ⟨p2, p3, rfl, h3, h4⟩ := split2 p23 msg.length (by simp at hl; omega)
    have h5 : p3.length = dl.length + 1 := by simp at hl h4; omega
    cases p3 with
    | nil => simp at h5
    | cons y p3 =>
      have e1 : p1 ++ (p2 ++ y :: p3) ++ old ++ 0 :: suf = p1 ++ (p2 ++ [y]) ++ (p3 ++ old ++ 0 :: suf) := by simp
      rw [e1, wr_mid p1 (p2 ++ [y]) _ (msg ++ [0]) _ h1.symm (by simp; omega)]
      have e2 : p1 ++ (msg ++ [0]) ++ (p3 ++ old ++ 0 :: suf) = (p1 ++ msg) ++ (0 :: p3) ++ (old ++ 0 :: suf) := by simp
      simp only []
      rw [e2, wr_mid (p1 ++ msg) (0 :: p3) _ (x :: dl) _ (by simp; omega) (by simpa using h5.symm)]
      exact ⟨nz_append (nz_append hm hd) ho, p1, suf, by simp, h1⟩

theorem trunc_arr (arr : List Byte) (pos : Nat) (old bytes dl : List Byte) (r : Nat)
    (hs : HoldsCStr arr pos old) (hbl : bytes.length = pos) (hr : r + 1 ≤ pos) (hdl : dl.length = r)
    (hdnz : ∀ b ∈ dl, b ≠ 0) (hnz : ∀ b ∈ (bytes.drop 1).take (pos - r - 1), b ≠ 0) :
    HoldsCStr (wr (wr (wr arr 0 bytes).1 0 [60]).1 (pos - r) dl).1 0
      (60 :: (bytes.drop 1).take (pos - r - 1) ++ dl ++ old) := by
  obtain ⟨ho, pre, suf, rfl, hl⟩ := hs
  have e1 : pre ++ old ++ 0 :: suf = [] ++ pre ++ (old ++ 0 :: suf) := by simp
  rw [e1, wr_mid [] pre _ bytes 0 rfl (by omega)]
  cases bytes with
  | nil => simp at hbl; omega
  | cons b0 bt =>
    have e2 : [] ++ (b0 :: bt) ++ (old ++ 0 :: suf) = [] ++ [b0] ++ (bt ++ (old ++ 0 :: suf)) := by simp
    simp only []
    rw [e2, wr_mid [] [b0] _ [60] 0 rfl rfl]
    simp only [List.length_cons] at hbl
    have e3 : [] ++ [60] ++ (bt ++ (old ++ 0 :: suf))
        = (60 :: bt.take (pos - r - 1)) ++ bt.drop (pos - r - 1) ++ (old ++ 0 :: suf) := by
      have h := List.take_append_drop (pos - r - 1) bt
      conv => lhs; rw [← h]
      simp
    rw [e3, wr_mid (60 :: bt.take (pos - r - 1)) _ _ dl _ (by simp; omega) (by simp; omega)]
    refine ⟨nz_append (nz_append ?_ hdnz) ho, [], suf, by simp, rfl⟩
    intro b hb
    rcases List.mem_cons.mp hb with rfl | hb
    · decide
    · exact hnz b (by simpa using hb)

theorem noroom_arr (arr : List Byte) (x : Byte) (xs : List Byte) (hs : HoldsCStr arr 0 (x :: xs)) :
    HoldsCStr (wr arr 0 [60]).1 0 (60 :: xs) := by
  obtain ⟨ho, pre, suf, rfl, hl⟩ := hs
  have : pre = [] := List.length_eq_zero_iff.mp hl
  subst this
  have e1 : [] ++ x :: xs ++ 0 :: suf = [] ++ [x] ++ (xs ++ 0 :: suf) := by simp
  rw [e1, wr_mid [] [x] _ [60] 0 rfl rfl]
  refine ⟨?_, [], suf, by simp, rfl⟩
  intro b hb
  rcases List.mem_cons.mp hb with rfl | hb
  · decide
  · exact ho b (List.mem_cons_of_mem _ hb)

/-- `lbuf` after `vsnprintf(lbuf, n, ...)` -/
def lbuf0 (n : Nat) (msg : List Byte) : List Byte :=
  (msg.take (n - 1) ++ [0]) ++ List.replicate (n + 2 - (min msg.length (n - 1) + 1)) 0xEE

/-- … and with the `>` mark of a message that was cut -/
def lbufOf (n : Nat) (msg : List Byte) : List Byte :=
  if msg.length ≥ n then (lbuf0 n msg).set (n - 2) 62 else lbuf0 n msg

/-- length of the message as stored in the local buffer -/
def capLen (n : Nat) (msg : List Byte) : Nat := if msg.length ≥ n then n - 1 else msg.length

variable (n : Nat) (msg : List Byte)

theorem capLen_le : capLen n msg ≤ n - 1 ∧ capLen n msg ≤ msg.length ∧
    (msg.length < n → capLen n msg = msg.length) ∧ (n ≤ msg.length → capLen n msg = n - 1) := by
  unfold capLen; split <;> omega

def truncBytes (lbuf : List Byte) (mlen remain : Nat) : List Byte :=
  ((List.range remain).map fun i => lbuf[mlen - remain + i]?).map (·.getD 0xEE)

def truncBad (lbuf : List Byte) (mlen remain : Nat) : Bool :=
  ((List.range remain).map fun i => lbuf[mlen - remain + i]?).any (·.isNone) || decide (mlen < remain)

theorem lbuf0_len : (lbuf0 n msg).length = n + 2 := by
  simp [lbuf0]; omega

theorem lbufOf_len : (lbufOf n msg).length = n + 2 := by
  unfold lbufOf
  split
  · rw [List.length_set, lbuf0_len]
  · exact lbuf0_len n msg

theorem lbuf0_get (hm : MsgWF msg) (j : Nat) (hj : j < min msg.length (n - 1)) :
    ∃ b, (lbuf0 n msg)[j]? = some b ∧ b ≠ 0 := by
  have hjm : j < msg.length := by omega
  refine ⟨msg[j], ?_, hm.nz _ (List.getElem_mem hjm)⟩
  rw [lbuf0, List.append_assoc, List.getElem?_append_left (by simp; omega), List.getElem?_take]
  simp [show j < n - 1 by omega, hjm]

theorem lbufOf_nz (hm : MsgWF msg) (j : Nat) (hj : j < capLen n msg) :
    ∃ b, (lbufOf n msg)[j]? = some b ∧ b ≠ 0 := by
  unfold lbufOf
  unfold capLen at hj
  split at hj
  · rename_i hc
    rw [if_pos hc, List.getElem?_set]
    split
    · split
      · exact ⟨62, rfl, by decide⟩
      · rename_i h1 h2; rw [lbuf0_len] at h2; omega
    · exact lbuf0_get n msg hm j (by omega)
  · rename_i hc
    rw [if_neg hc]
    exact lbuf0_get n msg hm j (by omega)

theorem truncBad_false (lbuf : List Byte) (mlen remain : Nat) (h1 : remain ≤ mlen) (h2 : mlen ≤ lbuf.length) :
    truncBad lbuf mlen remain = false := by
  simp only [truncBad, Bool.or_eq_false_iff, decide_eq_false_iff_not, Nat.not_lt]
  refine ⟨?_, h1⟩
  rw [List.any_eq_false]
  intro x hx
  rcases List.mem_map.mp hx with ⟨i, hi, rfl⟩
  have : i < remain := List.mem_range.mp hi
  have hlt : mlen - remain + i < lbuf.length := by omega
  simp [List.getElem?_eq_getElem hlt]

theorem truncBytes_nz (lbuf : List Byte) (mlen remain k N : Nat)
    (hN : ∀ j, j < N → ∃ b, lbuf[j]? = some b ∧ b ≠ 0) (hk : 0 < k → mlen - remain + k < N) :
    ∀ b ∈ ((truncBytes lbuf mlen remain).drop 1).take k, b ≠ 0 := by
  intro b hb
  rcases List.mem_iff_getElem?.mp hb with ⟨i, hi⟩
  rw [List.getElem?_take] at hi
  split at hi
  · rename_i hik
    rw [List.getElem?_drop] at hi
    simp only [truncBytes, List.map_map, List.getElem?_map] at hi
    rcases hN (mlen - remain + (1 + i)) (by have := hk (by omega); omega) with ⟨b', hb', hne⟩
    by_cases hr : 1 + i < remain
    · simp [List.getElem?_range hr, hb'] at hi
      rw [← hi]; exact hne
    · simp [List.getElem?_eq_none (show (List.range remain).length ≤ 1 + i by simp; omega)] at hi
  · cases hi

end Kdf.Lemmas.Err
