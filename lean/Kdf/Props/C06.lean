import Kdf.Model.Cache
import Kdf.Lemmas.Cache
import Kdf.Lemmas.CacheStep
/-!
# C06 — the page cache never loses, duplicates or recycles a buffer in use

Property theorems only (helper lemmas: `Kdf/Lemmas/Cache*.lean`).  All statements
hold for every capacity and every history; API-protocol violations are `proto`
errors of the model, so "the step succeeded" is the protocol hypothesis.

The invariant `Inv` is not kept by every operation: `cache_put_entry` on an in-flight entry whose
reference count is 1 succeeds in the model (and in the C code) and leaves an unreferenced entry on the
in-flight list, against the field `inflight_ref` (`inv_step_counterexample`,
`inv_reachable_counterexample`); the full statements `inv_step`, `inv_reachable` stand below as comments.
Two statements are proved in their place, for steps and for histories:

* `…_partial`: `Inv` is kept under the protocol condition `putOk`/`runOk` (the last reference on an
  in-flight entry is dropped with `discard`, not `put`);
* `…_weak`: without any extra hypothesis, every field of `Inv` except `inflight_ref` (`WInv`) is kept /
  holds in every reachable state.
-/
namespace Kdf.Props.C06
open Kdf.Model.Cache Kdf.Lemmas.Cache

/-- A freshly flushed cache satisfies the invariant. -/
theorem inv_flush (cap : Nat) (h : 0 < cap) : Inv (flush cap) :=
  (inv_iff _).2 (invS_flush cap h True)

/- The full statement, FALSE (see `inv_step_counterexample`):
theorem inv_step (c c' : Cache) (op : Op) (o : Out) (h : Inv c) (hs : step c op = .ok (c', o)) :
    Inv c' -/

/-- Every operation preserves the invariant, provided a `put` does not drop the last
reference of an entry that is still in flight (`putOk`; vacuous for the other operations). -/
theorem inv_step_partial (c c' : Cache) (op : Op) (o : Out) (h : Inv c)
    (hs : step c op = .ok (c', o)) (hp : putOk c op) : Inv c' :=
  (inv_iff _).2 (step_spec ((inv_iff _).1 h) hs (fun _ => hp)).1

/-- Every operation, without exception, preserves all fields of the invariant other than
`inflight_ref`. -/
theorem inv_step_weak (c c' : Cache) (op : Op) (o : Out) (h : WInv c)
    (hs : step c op = .ok (c', o)) : WInv c' :=
  (step_spec h hs (fun f => f.elim)).1

/-- `Inv` is `WInv` plus `inflight_ref`. -/
theorem inv_iff_weak (c : Cache) : Inv c ↔ WInv c ∧ ∀ i ∈ c.F, c.refcnt i ≠ 0 := inv_iff_winv c

/-- Counterexample to the unconditional `inv_step`: capacity 1, one miss (entry 0 in flight
with one reference), then `put 0`. -/
theorem inv_step_counterexample :
    ∃ c c' o, Inv c ∧ step c (.put 0) = .ok (c', o) ∧ ¬ Inv c' := by
  have h0 : Inv (flush 1) := inv_flush 1 (by decide)
  obtain ⟨r, hs⟩ : ∃ r, step (flush 1) (.get 5) = .ok r := ⟨_, rfl⟩
  have hc : Inv r.1 := inv_step_partial _ _ _ r.2 h0 hs trivial
  have hr : r = (step (flush 1) (.get 5)).toOption.getD default := by rw [hs]; rfl
  obtain ⟨r', hp⟩ : ∃ r', step r.1 (.put 0) = .ok r' := by rw [hr]; exact ⟨_, rfl⟩
  refine ⟨r.1, r'.1, r'.2, hc, hp, fun hI => ?_⟩
  have hr' : r' = (step r.1 (.put 0)).toOption.getD default := by rw [hp]; rfl
  have hF : (0 : Nat) ∈ r'.1.F := by rw [hr', hr]; decide
  have hz : r'.1.refcnt 0 = 0 := by rw [hr', hr]; decide
  exact hI.inflight_ref 0 hF hz

/-- The "cannot happen" arms of the C code (uninitialised `zprec`/`zprobe`, empty
unused partition with no ghost, …) are unreachable. -/
theorem no_ub (c : Cache) (op : Op) (h : Inv c) (w : String) : step c op ≠ .error (.ub w) :=
  step_no_ub ((inv_iff _).1 h) op w

/-- `no_ub` needs only the weak invariant, hence holds in every reachable state. -/
theorem no_ub_weak (c : Cache) (op : Op) (h : WInv c) (w : String) : step c op ≠ .error (.ub w) :=
  step_no_ub h op w

/- The full statement, FALSE (see `inv_reachable_counterexample`):
theorem inv_reachable (cap : Nat) (hc : 0 < cap) (ops : List Op) (c : Cache)
    (hr : run (flush cap) ops = .ok c) : Inv c -/

/-- Every state reachable by a history in which no `put` drops the last reference of an
in-flight entry satisfies the invariant: any capacity, any such history. -/
theorem inv_reachable_partial (cap : Nat) (hc : 0 < cap) (ops : List Op) (c : Cache)
    (hp : runOk (flush cap) ops) (hr : run (flush cap) ops = .ok c) : Inv c :=
  (inv_iff _).2 (run_inv ops _ _ (invS_flush cap hc True) (fun _ => hp) hr)

/-- Every reachable state satisfies all fields of the invariant other than `inflight_ref`:
any capacity, any history. -/
theorem inv_reachable_weak (cap : Nat) (hc : 0 < cap) (ops : List Op) (c : Cache)
    (hr : run (flush cap) ops = .ok c) : WInv c :=
  run_inv ops _ _ (invS_flush cap hc False) (fun f => f.elim) hr

/-- Counterexample to the unconditional `inv_reachable`. -/
theorem inv_reachable_counterexample :
    ∃ c, run (flush 1) [.get 5, .put 0] = .ok c ∧ ¬ Inv c := by
  obtain ⟨c, hr⟩ : ∃ c, run (flush 1) [.get 5, .put 0] = .ok c := ⟨_, rfl⟩
  refine ⟨c, hr, fun hI => ?_⟩
  have hc : c = (run (flush 1) [.get 5, .put 0]).toOption.getD default := by rw [hr]; rfl
  have hF : (0 : Nat) ∈ c.F := by rw [hc]; decide
  have h0 : c.refcnt 0 = 0 := by rw [hc]; decide
  exact hI.inflight_ref 0 hF h0

/-- A lookup is refused exactly when the key is neither cached nor in flight
and every buffer is referenced or being filled; a refused lookup changes nothing. -/
theorem busy_iff (c : Cache) (k : Nat) (h : Inv c) :
    (∃ c', get c k = .ok (c', .busy)) ↔
      (k ∉ (live c).map c.key ∧ c.pinned + c.F.length ≥ c.cap) := by
  obtain ⟨c'', o, hg, -, -, -, hout⟩ := get_spec ((inv_iff _).1 h) k
  constructor
  · rintro ⟨c', hs⟩
    obtain ⟨-, -, -, -, hk, hb⟩ := get_spec_of_ok ((inv_iff _).1 h) hs
    refine ⟨fun hm => ?_, hb⟩
    obtain ⟨i, hi, hik⟩ := List.mem_map.1 hm
    exact hk i hi hik
  · rintro ⟨hk, hb⟩
    have hk' : ∀ j ∈ live c, c.key j ≠ k := fun j hj hjk => hk (List.mem_map.2 ⟨j, hj, hjk⟩)
    cases o with
    | busy => exact ⟨c'', hg⟩
    | done => exact hout.elim
    | entry i v =>
      cases v with
      | true =>
        obtain ⟨hi, hik, -⟩ := hout
        exact absurd hik (hk' i (List.mem_append_left _ hi))
      | false =>
        obtain ⟨-, -, ⟨j, hj, hjk⟩ | hlt⟩ := hout
        · exact absurd hjk (hk' j hj)
        · omega

theorem busy_unchanged (c c' : Cache) (k : Nat) (hs : get c k = .ok (c', .busy)) : c' = c :=
  get_busy_eq hs

/-- An entry that a caller references is never evicted, recycled or rewritten by
any lookup: it stays cached/in flight with the same key and the same buffer. -/
theorem referenced_stable (c c' : Cache) (k : Nat) (o : Out) (h : Inv c) (hs : get c k = .ok (c', o))
    (i : Nat) (hi : i < 2 * c.cap) (hr : c.refcnt i ≠ 0) :
    i ∈ live c' ∧ c'.key i = c.key i ∧ c'.dataOf i = c.dataOf i ∧ c'.refcnt i ≥ c.refcnt i := by
  exact (get_spec_of_ok ((inv_iff _).1 h) hs).2.2.1.refd i (h.ref_live i hi hr) hr

/-- An entry that stays cached across any operation keeps its key and its
buffer (so a later hit returns the buffer that was filled for that key). -/
theorem cached_stable (c c' : Cache) (op : Op) (o : Out) (h : Inv c) (hs : step c op = .ok (c', o))
    (i : Nat) (hi : i ∈ cached c) (hi' : i ∈ cached c') :
    c'.key i = c.key i ∧ c'.dataOf i = c.dataOf i :=
  have _ := hi
  (step_spec h.winv hs (fun f => f.elim)).2 i hi'

/-- A hit returns a valid cached entry for the requested key. -/
theorem hit_key (c c' : Cache) (k i : Nat) (h : Inv c) (hs : get c k = .ok (c', .entry i true)) :
    i ∈ cached c ∧ c.key i = k ∧ i ∈ cached c' ∧ c'.dataOf i = c.dataOf i := by
  obtain ⟨-, -, hfr, h1, h2, h3⟩ := get_spec_of_ok ((inv_iff _).1 h) hs
  exact ⟨h1, h2, h3, (hfr.cach i h3).2.2⟩

/-- A miss hands out an in-flight entry for the key that owns a buffer no other
live entry owns. -/
theorem miss_entry (c c' : Cache) (k i : Nat) (h : Inv c) (hs : get c k = .ok (c', .entry i false)) :
    i ∈ c'.F ∧ c'.key i = k ∧ hasData c' i = true ∧
      ∀ j ∈ live c', j ≠ i → c'.dataOf j ≠ c'.dataOf i := by
  obtain ⟨hI, -, -, hF, hk, -⟩ := get_spec_of_ok ((inv_iff _).1 h) hs
  have hil : i ∈ live c' := List.mem_append_right _ hF
  have hd : hasData c' i = true := hI.2.live_data i hil
  refine ⟨hF, hk, hd, fun j hj hne => ?_⟩
  obtain ⟨d, hdi⟩ := Option.isSome_iff_exists.1 hd
  rw [hdi]
  exact inv_unique_buffer hI (hI.2.lt_of_live hil) (hI.2.lt_of_live hj) (Ne.symm hne) hdi

/-! ### Non-vacuity -/
example : Inv (flush 2) := inv_flush 2 (by decide)
/-- a history with a miss, a fill, a hit, a second miss and a hit is accepted -/
example : ∃ c, run (flush 2) [.get 1, .insert 0, .put 0, .get 2, .get 1] = .ok c := ⟨_, rfl⟩
/-- … and it satisfies the protocol condition of `inv_reachable_partial` -/
example : runOk (flush 2) [.get 1, .insert 0, .put 0, .get 2, .get 1] := by decide

/-! ### buffer addresses (`cache_flush`): entry `i` of the first half owns `data + i * elemsize` -/

/-- address of the buffer `cache_flush` hands to entry `i` -/
def bufAddr (data elemsize i : Nat) : Nat := data + i * elemsize

/-- **no two entries share a buffer**, whatever the capacity and the element size (in particular beyond 4 GiB):
    distinct entries own disjoint byte ranges. -/
theorem buffer_addresses_distinct (data elemsize i j : Nat) (hs : 0 < elemsize) (hij : i < j) :
    bufAddr data elemsize i + elemsize ≤ bufAddr data elemsize j := by
  have _ := hs
  unfold bufAddr
  have : (i + 1) * elemsize ≤ j * elemsize := Nat.mul_le_mul_right elemsize hij
  rw [Nat.add_mul, Nat.one_mul] at this
  omega

example : bufAddr 4096 (2^30) 4 = 4096 + 2^32 := by decide

/-! ### a released cache lives exactly as long as one of its entries is referenced -/

/-- the invariant: an orphaned cache is freed iff no entry is referenced; a cache that was not released is not freed -/
def LifeInv (l : Life) : Prop := (l.freed = true ↔ (l.orphan = true ∧ l.idle = true))

theorem life_idle_upd (l : Life) (o f : Bool) : ({ l with orphan := o, freed := f } : Life).idle = l.idle := rfl

theorem life_release_inv (l : Life) (hf : l.freed = false) : LifeInv l.release := by
  unfold LifeInv Life.release
  by_cases hi : l.idle = true
  · rw [if_pos hi]; simp only [life_idle_upd, hi, and_self]
  · rw [if_neg hi]
    have e : ∀ f, (Life.mk l.refs true f).idle = l.idle := fun _ => rfl
    simp [hf, e, hi]

theorem life_getD_zero_of_idle (r : List Nat) (i : Nat) (h : r.all (· == 0) = true) : r.getD i 0 = 0 := by
  rw [List.all_eq_true] at h
  by_cases hlt : i < r.length
  · have := h _ (List.getElem_mem hlt)
    simp only [List.getD_eq_getElem?_getD, List.getElem?_eq_getElem hlt, Option.getD_some]
    simpa using this
  · simp only [List.getD_eq_getElem?_getD, List.getElem?_eq_none (by omega : r.length ≤ i), Option.getD_none]

/-- **never freed while a reference is out, freed with the last one**: dropping a reference of an orphaned, not yet
    freed cache keeps the invariant, whichever entry it is (first or second half of the entry array). -/
theorem life_drop_inv (l : Life) (i : Nat) (ho : l.orphan = true) (hf : l.freed = false) : LifeInv (l.drop i) := by
  unfold Life.drop
  simp only
  by_cases hz : ((l.refs.modify i (· - 1)).getD i 0 == 0 && l.orphan) = true
  · rw [if_pos hz]
    exact life_release_inv _ hf
  · rw [if_neg hz]
    unfold LifeInv
    simp only [hf, ho, Bool.false_eq_true, true_and, false_iff]
    intro hidle
    apply hz
    simp only [ho, Bool.and_true, beq_iff_eq]
    exact life_getD_zero_of_idle _ i hidle

/-- every history of drops after a release keeps the invariant (as long as the cache exists) -/
theorem life_history (l : Life) (hf : l.freed = false) (is : List Nat) :
    ∀ l', (is.foldl (fun (a : Life) i => if a.freed then a else a.drop i) l.release) = l' → LifeInv l' := by
  have key : ∀ (is : List Nat) (a : Life), a.orphan = true → LifeInv a →
      LifeInv (is.foldl (fun (a : Life) i => if a.freed then a else a.drop i) a) := by
    intro is
    induction is with
    | nil => intro a _ h; exact h
    | cons i is ih =>
      intro a ho hinv
      simp only [List.foldl_cons]
      by_cases hfa : a.freed = true
      · simp only [hfa, if_true]; exact ih a ho hinv
      · have hfa' : a.freed = false := by simpa using hfa
        simp only [hfa', Bool.false_eq_true, if_false]
        have ho' : (a.drop i).orphan = true := by
          unfold Life.drop Life.release; simp only; split <;> (try split) <;> simp [ho]
        exact ih _ ho' (life_drop_inv a i ho hfa')
  intro l' h
  rw [← h]
  have ho : l.release.orphan = true := by unfold Life.release; split <;> simp
  exact key is _ ho (life_release_inv l hf)

example : ({ refs := [0, 0, 1, 0] } : Life).release.freed = false := by decide
example : (({ refs := [0, 0, 1, 0] } : Life).release.drop 2).freed = true := by decide
example : ({ refs := [0, 0, 0, 0] } : Life).release.freed = true := by decide

end Kdf.Props.C06
