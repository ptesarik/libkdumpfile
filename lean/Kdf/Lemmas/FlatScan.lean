import Kdf.Lemmas.FlatRead
/-! The scan loop of `flatmap_file_init`. -/
namespace Kdf.Lemmas.Flat
open Kdf.Model.Map Kdf.Model.Flat Kdf.Lemmas.Map

/-! ### `cover` and `rearranged` -/

theorem coverFrom_append (xs ys : List Rec) (i : Nat) (acc : Int) (p : Nat) :
    coverFrom (xs ++ ys) i acc p = coverFrom ys (i + xs.length) (coverFrom xs i acc p) p := by
  induction xs generalizing i acc with
  | nil => simp [coverFrom]
  | cons x xs ih =>
    simp only [List.cons_append, coverFrom, List.length_cons]
    rw [ih]
    congr 1; omega

theorem cover_concat (recs : List Rec) (r : Rec) (p : Nat) :
    cover (recs ++ [r]) p = if r.covers p then (recs.length : Int) else cover recs p := by
  simp [cover, coverFrom_append, coverFrom]

theorem rearranged_concat (f : File) (recs : List Rec) (r : Rec) (p : Nat) :
    rearranged f (recs ++ [r]) p =
      if r.covers p then f (r.dpos + (p - r.pos)) % 256 else rearranged f recs p := by
  simp [rearranged, List.foldl_append]

theorem coverFrom_none (recs : List Rec) (i : Nat) (acc : Int) (p : Nat)
    (h : ∀ r ∈ recs, ¬ r.covers p) : coverFrom recs i acc p = acc := by
  induction recs generalizing i acc with
  | nil => rfl
  | cons x xs ih =>
    simp only [coverFrom]
    rw [if_neg (h x (List.mem_cons_self ..)), ih _ _ (fun r hr => h r (List.mem_cons_of_mem _ hr))]

theorem offAt_nat (l : List Int) (k : Nat) : offAt l (k : Int) = l[k]? := by
  have : ¬ ((k : Int) < 0) := by omega
  simp [offAt, this]

theorem offAt_append {l l' : List Int} {k o : Int} (h : offAt l k = some o) :
    offAt (l ++ l') k = some o := by
  unfold offAt at h ⊢
  split at h
  · cases h
  · rename_i hk
    rw [if_neg hk, List.getElem?_append_left (List.getElem?_eq_some_iff.1 h).1]
    exact h

theorem concat_induction {α} {P : List α → Prop} (nil : P []) (concat : ∀ l a, P l → P (l ++ [a]))
    (l : List α) : P l := by
  rw [← List.reverse_reverse l]
  induction l.reverse with
  | nil => exact nil
  | cons a t ih => rw [List.reverse_cons]; exact concat _ a ih

/-- `cover recs p` is `NONE` where no record wrote; otherwise the offset stored for it leads to
the byte that `rearranged` has at `p` -/
theorem cover_spec (recs : List Rec) (p : Nat) :
    (cover recs p = NONE ∧ ∀ f, rearranged f recs p = 0) ∨
    ∃ o, cover recs p ≠ NONE ∧
      offAt (recs.map fun r => (r.dpos : Int) - (r.pos : Int)) (cover recs p) = some o ∧
      0 ≤ (p : Int) + o ∧ ∀ f, rearranged f recs p = f ((p : Int) + o).toNat % 256 := by
  induction recs using concat_induction with
  | nil => exact .inl ⟨rfl, fun _ => rfl⟩
  | concat l a ih =>
    simp only [cover_concat, rearranged_concat, List.map_append]
    by_cases hc : a.covers p
    · simp only [if_pos hc]
      unfold Rec.covers at hc
      refine .inr ⟨(a.dpos : Int) - a.pos, by simp only [NONE]; omega, ?_, by omega, fun f => ?_⟩
      · rw [offAt_nat, ← List.length_map (f := fun r : Rec => (r.dpos : Int) - (r.pos : Int))]
        exact List.getElem?_concat_length ..
      · have e : (p : Int) + ((a.dpos : Int) - a.pos) = ((a.dpos + (p - a.pos) : Nat) : Int) := by omega
        rw [e, Int.toNat_natCast]
    · simp only [if_neg hc]
      rcases ih with h | ⟨o, h1, h2, h3, h4⟩
      · exact .inl h
      · exact .inr ⟨o, h1, offAt_append h2, h3, h4⟩

/-! ### header fields -/

theorem beN_lt (f : File) (p n : Nat) : beN f p n < 256 ^ n := by
  induction n with
  | zero => exact Nat.one_pos
  | succ n ih =>
    rw [beN, Nat.pow_succ]
    have := Nat.mul_le_mul_right 256 (Nat.succ_le_of_lt ih)
    omega

theorem beN_zero (f : File) (p : Nat) (hz : ∀ i, p ≤ i → f i = 0) (n : Nat) : beN f p n = 0 := by
  induction n with
  | zero => rfl
  | succ n ih => rw [beN, ih, hz _ (Nat.le_add_right p n)]

theorem toS64_be64_lt {f : File} {p n : Nat} (h : toS64 (be64 f p) = (n : Int)) : n < S63 := by
  have hx : be64 f p < W := beN_lt f p 8
  unfold toS64 at h
  simp only [W, S63] at *
  split at h <;> omega

theorem toS64_zero : toS64 0 = 0 := rfl

theorem rec_lt_W {pos size : Nat} (hp : pos < S63) (hs : size < S63) : pos + (size - 1) < W := by
  simp only [W, S63] at *; omega

/-! ### one iteration -/

/-- one iteration of the loop of `flatmap_file_init`, the rest of the loop being `k`:
`scan` and `scanE` both iterate it -/
def stepK (f : File) (s : Scan) (k : Scan → ScanRes) : ScanRes :=
  let pos := toS64 (be64 f s.flatpos)
  if pos = -1 then .ok s
  else if pos < 0 then .err .corrupt s.flatpos
  else
    let size := toS64 (be64 f (s.flatpos + 8))
    if size ≤ 0 then .err .corrupt s.flatpos
    else
      let dpos := s.flatpos + RECHDR
      let off : Int := (dpos : Int) - pos
      match mapSet s.map pos.toNat ⟨size.toNat - 1, (s.offs.length : Int)⟩ true with
      | (.ok, m') =>
        if dpos + size.toNat ≥ S63 then .ub
        else k ⟨m', s.offs ++ [off], dpos + size.toNat⟩
      | (.nomem, _) => .err .system s.flatpos
      | (.oob, _) => .oob

theorem scan_succ (f : File) (fuel : Nat) (s : Scan) :
    scan f (fuel+1) s = stepK f s (scan f fuel) := rfl

theorem scanE_succ (f : File) (fsz fuel : Nat) (s : Scan) :
    scanE f fsz (fuel+1) s =
      if hdrBehindEof fsz s.flatpos then .err .eof s.flatpos else stepK f s (scanE f fsz fuel) := rfl

/-- the header at `s.flatpos` is that of a record of `size` bytes for position `pos` -/
structure RecHdr (f : File) (s : Scan) (pos size : Nat) : Prop where
  pos_eq : toS64 (be64 f s.flatpos) = (pos : Int)
  size_eq : toS64 (be64 f (s.flatpos + 8)) = (size : Int)
  size_pos : 0 < size

theorem stepK_cases (f : File) (s : Scan) :
    toS64 (be64 f s.flatpos) = -1 ∨ (∀ k, stepK f s k = .err .corrupt s.flatpos) ∨
    ∃ pos size, RecHdr f s pos size := by
  by_cases c1 : toS64 (be64 f s.flatpos) = -1
  · exact .inl c1
  by_cases c2 : toS64 (be64 f s.flatpos) < 0
  · exact .inr (.inl fun k => by unfold stepK; rw [if_neg c1, if_pos c2])
  by_cases c3 : toS64 (be64 f (s.flatpos + 8)) ≤ 0
  · exact .inr (.inl fun k => by unfold stepK; rw [if_neg c1, if_neg c2, if_pos c3])
  exact .inr (.inr ⟨_, _, (Int.toNat_of_nonneg (by omega)).symm, (Int.toNat_of_nonneg (by omega)).symm,
    by omega⟩)

theorem stepK_end {f : File} {s : Scan} {k : Scan → ScanRes} (h : toS64 (be64 f s.flatpos) = -1) :
    stepK f s k = .ok s := by
  unfold stepK; exact if_pos h

theorem stepK_rec {f : File} {s : Scan} {pos size : Nat} {k : Scan → ScanRes} (h : RecHdr f s pos size) :
    stepK f s k =
      match mapSet s.map pos ⟨size - 1, (s.offs.length : Int)⟩ true with
      | (.ok, m') =>
        if s.flatpos + RECHDR + size ≥ S63 then .ub
        else k ⟨m', s.offs ++ [((s.flatpos + RECHDR : Nat) : Int) - (pos : Int)], s.flatpos + RECHDR + size⟩
      | (.nomem, _) => .err .system s.flatpos
      | (.oob, _) => .oob := by
  obtain ⟨h1, h2, hs⟩ := h
  unfold stepK
  simp only [h1, h2, Int.toNat_natCast]
  rw [if_neg (by omega), if_neg (by omega), if_neg (by omega)]

/-- on a well-formed map `addrxlat_map_set` succeeds -/
theorem stepK_rec_ok {f : File} {s : Scan} {pos size : Nat} {k : Scan → ScanRes} (h : RecHdr f s pos size)
    (hwf : WF s.map) :
    stepK f s k =
      if s.flatpos + RECHDR + size ≥ S63 then .ub
      else k ⟨(mapSet s.map pos ⟨size - 1, (s.offs.length : Int)⟩ true).2,
        s.offs ++ [((s.flatpos + RECHDR : Nat) : Int) - (pos : Int)], s.flatpos + RECHDR + size⟩ := by
  have hok := (mapSet_ok s.map hwf pos ⟨size - 1, (s.offs.length : Int)⟩
    (rec_lt_W (toS64_be64_lt h.pos_eq) (toS64_be64_lt h.size_eq))).1
  rw [stepK_rec h]
  generalize mapSet s.map pos ⟨size - 1, (s.offs.length : Int)⟩ true = X at hok ⊢
  obtain ⟨st, m'⟩ := X
  simp only at hok
  subst hok
  rfl

theorem stepK_ends_or_continues (f : File) (s : Scan) :
    (∃ r, r ≠ .fuel ∧ ∀ k, stepK f s k = r) ∨
    (∃ s', s.flatpos + 16 < s'.flatpos ∧ be64 f (s.flatpos + 8) ≠ 0 ∧ ∀ k, stepK f s k = k s') := by
  rcases stepK_cases f s with c | c | ⟨pos, size, h⟩
  · exact .inl ⟨.ok s, nofun, fun _ => stepK_end c⟩
  · exact .inl ⟨.err .corrupt s.flatpos, nofun, c⟩
  · have hne : be64 f (s.flatpos + 8) ≠ 0 := fun e => by have := h.size_eq; rw [e, toS64_zero] at this; have := h.size_pos; omega
    have hk : ∀ k, stepK f s k = _ := fun k => stepK_rec (k := k) h
    generalize mapSet s.map pos ⟨size - 1, (s.offs.length : Int)⟩ true = X at hk
    obtain ⟨st, m'⟩ := X
    cases st with
    | ok =>
      by_cases hu : s.flatpos + RECHDR + size ≥ S63
      · exact .inl ⟨.ub, nofun, fun k => (hk k).trans (if_pos hu)⟩
      · exact .inr ⟨⟨m', s.offs ++ [((s.flatpos + RECHDR : Nat) : Int) - (pos : Int)],
          s.flatpos + RECHDR + size⟩, Nat.lt_add_of_pos_right h.size_pos, hne, fun k => (hk k).trans (if_neg hu)⟩
    | nomem => exact .inl ⟨.err .system s.flatpos, nofun, hk⟩
    | oob => exact .inl ⟨.oob, nofun, hk⟩

/-! ### the loop -/

theorem inv_step (recs0 : List Rec) (s0 : Scan) (pos size dpos fp : Nat)
    (hi : Inv recs0 s0) (hpos : pos < S63) (hsize : size < S63) (hs : 0 < size) :
    Inv (recs0 ++ [⟨pos, size, dpos⟩])
      ⟨(mapSet s0.map pos ⟨size - 1, (s0.offs.length : Int)⟩ true).2,
        s0.offs ++ [(dpos : Int) - (pos : Int)], fp⟩ := by
  obtain ⟨hwf, hoffs, hden, hb⟩ := hi
  have hg := rec_lt_W hpos hsize
  have hlen : s0.offs.length = recs0.length := by rw [hoffs, List.length_map]
  refine ⟨mapSet_wf hwf _ ⟨size - 1, (s0.offs.length : Int)⟩ hg, ?_, ?_, ?_⟩
  · show s0.offs ++ _ = _
    rw [hoffs, List.map_append]
    rfl
  · intro p hp
    show den (mapSet s0.map pos ⟨size - 1, (s0.offs.length : Int)⟩ true).2 0 p = _
    have hc : (⟨pos, size, dpos⟩ : Rec).covers p ↔ pos ≤ p ∧ p ≤ pos + (size - 1) := by
      show pos ≤ p ∧ p < pos + size ↔ _
      omega
    rw [(mapSet_ok _ hwf _ ⟨size - 1, (s0.offs.length : Int)⟩ hg).2.2.2 p, cover_concat,
      hden p hp, hlen]
    simp only [hc]
  · intro r hr
    rcases List.mem_append.1 hr with h | h
    · exact hb r h
    · cases List.mem_singleton.1 h
      exact ⟨hpos, hsize⟩

theorem scan_inv (f : File) (fuel : Nat) (s0 s : Scan) (recs0 : List Rec)
    (h : scan f fuel s0 = .ok s) (hi : Inv recs0 s0) :
    ∃ recs, Parsed f s0.flatpos recs ∧ Inv (recs0 ++ recs) s := by
  induction fuel generalizing s0 recs0 with
  | zero => simp [scan] at h
  | succ fuel ih =>
    rw [scan_succ] at h
    rcases stepK_cases f s0 with c | c | ⟨pos, size, hr⟩
    · rw [stepK_end c] at h
      injection h with h; subst h
      exact ⟨[], Parsed.done c, by simpa using hi⟩
    · rw [c] at h; cases h
    · rw [stepK_rec_ok hr hi.1] at h
      split at h
      · cases h
      · obtain ⟨recs, hp, hi'⟩ := ih _ _ h
          (inv_step recs0 s0 pos size (s0.flatpos + RECHDR) (s0.flatpos + RECHDR + size)
            hi (toS64_be64_lt hr.pos_eq) (toS64_be64_lt hr.size_eq) hr.size_pos)
        refine ⟨⟨pos, size, s0.flatpos + RECHDR⟩ :: recs, Parsed.more pos size hr.pos_eq hr.size_eq hr.size_pos hp, ?_⟩
        simpa [List.append_assoc] using hi'

theorem scan_complete (f : File) (q : Nat) (recs : List Rec) (hp : Parsed f q recs) :
    ∀ (fuel : Nat) (s0 : Scan), s0.flatpos = q → Fits recs → WF s0.map →
      recs.length < fuel → ∃ s, scan f fuel s0 = .ok s := by
  induction hp with
  | done h =>
    intro fuel s0 hq _ _ hfuel
    cases fuel with
    | zero => simp at hfuel
    | succ fuel => subst hq; exact ⟨s0, by rw [scan_succ, stepK_end h]⟩
  | more pos size h1 h2 hs hrest ih =>
    intro fuel s0 hq hf hwf hfuel
    subst hq
    cases fuel with
    | zero => simp at hfuel
    | succ fuel =>
      have hfit : s0.flatpos + RECHDR + size < S63 := hf _ (List.mem_cons_self ..)
      rw [scan_succ, stepK_rec_ok ⟨h1, h2, hs⟩ hwf, if_neg (by omega)]
      exact ih fuel _ rfl (fun r hr => hf r (List.mem_cons_of_mem _ hr))
        (mapSet_wf hwf _ _ (rec_lt_W (toS64_be64_lt h1) (toS64_be64_lt h2)))
        (by simpa using hfuel)

/-- termination: `flatpos + fuel` never decreases, and an iteration that goes on has read a
non-zero size field, hence `flatpos + 8 < n` on a file of `n` bytes (zero beyond) -/
theorem scan_terminates (f : File) (n : Nat) (hz : ∀ i, n ≤ i → f i = 0) (fuel : Nat) (s0 : Scan)
    (h0 : 0 < fuel) (hfuel : n + 2 ≤ s0.flatpos + fuel) :
    scan f fuel s0 ≠ .fuel := by
  induction fuel generalizing s0 with
  | zero => omega
  | succ fuel ih =>
    rw [scan_succ]
    rcases stepK_ends_or_continues f s0 with ⟨r, hr, hk⟩ | ⟨s', hp, hne, hk⟩
    · rw [hk]; exact hr
    · rw [hk]
      have hlt : s0.flatpos + 8 < n :=
        Nat.lt_of_not_le fun hge => hne (beN_zero f _ (fun i hi => hz i (by omega)) 8)
      exact ih s' (by omega) (by omega)

/-! ### reads under `Inv` -/

theorem total_mem_single {m : Map} {r : Range} (hr : r ∈ m) (h : r.endoff + 1 = total m) :
    m = [r] := by
  obtain ⟨P, S, rfl⟩ := List.append_of_mem hr
  simp only [total_append, total_cons] at h
  have hP : P = [] := by
    cases P with
    | nil => rfl
    | cons x xs => simp only [total_cons] at h; omega
  have hS : S = [] := by
    cases S with
    | nil => rfl
    | cons x xs => simp only [total_cons] at h; omega
  subst hP hS; rfl

theorem Inv.noFullSeg {recs : List Rec} {s : Scan} (hi : Inv recs s) : NoFullSeg s.map := by
  obtain ⟨hwf, _, hden, hb⟩ := hi
  intro r hr hfull
  have ht : total s.map = W := by
    rcases hwf with h | h
    · rw [h] at hr; cases hr
    · exact h
  have hm : s.map = [r] := total_mem_single hr (by rw [ht]; exact hfull)
  have h1 := hden (W - 1) (by simp only [W]; omega)
  -- the last position is written by no record, since `pos, size < 2^63`
  have hc : cover recs (W - 1) = NONE := coverFrom_none _ _ _ _ (fun r' hr' hcov => by
    have hbr := hb r' hr'
    unfold Rec.covers at hcov
    simp only [W, S63] at hcov hbr; omega)
  rw [hc, hm] at h1
  simp only [den] at h1
  rw [if_pos (by omega)] at h1
  exact h1

theorem Inv.validOn {recs : List Rec} {s : Scan} (hi : Inv recs s) (pos len : Nat) (hlen : pos + len ≤ W) :
    ValidOn s.map s.offs pos len := by
  intro p hp1 hp2 hne
  rw [hi.2.2.1 p (by omega)] at hne ⊢
  rcases cover_spec recs p with ⟨h, _⟩ | ⟨o, _, h2, h3, _⟩
  · exact absurd h hne
  · exact ⟨o, by rw [hi.2.1]; exact h2, h3⟩

theorem Inv.viaMap_eq {recs : List Rec} {s : Scan} (hi : Inv recs s) (f : File) (p : Nat) (hp : p < W) :
    viaMap s.map s.offs f p = rearranged f recs p := by
  have hd := hi.2.2.1 p hp
  rcases cover_spec recs p with ⟨h, h0⟩ | ⟨o, h1, h2, _, h4⟩
  · rw [viaMap_none (hd.trans h), h0]
  · rw [viaMap_some (by rw [hd]; exact h1) (by rw [hd, hi.2.1]; exact h2), h4]

theorem preadFlat_inv (f : File) (recs : List Rec) (s : Scan) (hi : Inv recs s) (pos len : Nat)
    (hlen : pos + len ≤ W) :
    preadFlat s.map s.offs f pos len = .ok ((List.range len).map fun i => rearranged f recs (pos + i)) := by
  rw [preadFlat_via s.map s.offs f pos len hi.1 hi.noFullSeg hlen (hi.validOn pos len hlen)]
  congr 1
  exact map_range_congr fun i h => hi.viaMap_eq f (pos + i) (by omega)

theorem getChunkFlat_inv (f : File) (recs : List Rec) (s : Scan) (hi : Inv recs s) (pos len : Nat)
    (hlen : pos + len ≤ W) (hpos : pos < W) :
    ∃ b, getChunkFlat s.map s.offs f pos len =
      .ok (b, (List.range len).map fun i => rearranged f recs (pos + i)) := by
  obtain ⟨b, hb⟩ := getChunkFlat_via s.map s.offs f pos len hi.1 hi.noFullSeg hlen
    (hi.validOn pos (max len 1) (by omega))
  refine ⟨b, ?_⟩
  rw [hb]
  congr 2
  exact map_range_congr fun i h => hi.viaMap_eq f (pos + i) (by omega)

end Kdf.Lemmas.Flat
