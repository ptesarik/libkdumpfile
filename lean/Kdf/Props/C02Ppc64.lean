import Kdf.Model.PgtArch
import Kdf.Spec.ArchPpc64
import Kdf.Lemmas.PgtWalk
/-!
# C02 for Linux/ppc64 (`ppc64_linux_rpn30`): the library's walk equals the specification

`walk_eq_spec_ppc64`: for every memory, root, PTE mask (`< 2^64`), architectural
paging form (`archFormPpc64`) and input address, the one-call walk of the model
(`Kdf.Model.Pgt.walk` with the ppc64 handler of `Kdf/Model/PgtPpc64.lean`)
returns the address `Kdf.Spec.ArchPpc64.specPpc64` defines, or fails with the same
status — provided the walk does not meet an entry of the documented deviation
classes D1/D2 (`knownDeviation`, see `Kdf/Spec/ArchPpc64.lean`).

No bound on `va`, `root.addr` or the memory contents is needed.

`loop_eq`: induction on the level for any list of fields; the two architectural forms are
instances (`walk_eq_spec_of_fields`).
-/
namespace Kdf.Props.C02Ppc64
open Kdf.Model.Pgt Kdf.Model.PgtArch Kdf.Model.PgtPpc64 Kdf.Spec.ArchPpc64 Kdf.Lemmas.PgtWalk
open Kdf.Spec.ArchWalk (spanBits)

theorem k_isHugepd (e : Nat) : kernel.isHugepd e = decide (e / 4 % 16 ≠ 0) := rfl
theorem k_needPresent : kernel.needPresent = true := rfl

theorem hugepdShift_eq (e : Nat) : hugepdShift e = psizeShift (e / 4 % 16) := by
  have h : e % 2^6 / 2^2 = e / 4 % 16 := by omega
  have htab : ∀ p, p < 16 → mmuPshift p = psizeShift p := by decide
  rw [hugepdShift, h, htab _ (Nat.mod_lt _ (by decide))]

theorem devDir_eq_false {e : Nat} (h : devDir e = false) :
    (e / 2^63 % 2 = 1 ∧ e / 4 % 16 = 0) ∨
    (e / 2^63 % 2 = 0 ∧ e / 4 % 16 ≠ 0 ∧ psizeShift (e / 4 % 16) = 0) := by
  by_cases h63 : e / 2^63 % 2 = 1
  · simp [devDir, h63] at h; exact .inl ⟨h63, h⟩
  · have h63' : e / 2^63 % 2 = 0 := by omega
    simp [devDir, h63'] at h; exact .inr ⟨h63', h⟩

theorem present_of_not_devFinal {pte : Nat} (h : (if devFinal pte = true then 1 else 0) = 0) (h0 : pte ≠ 0) :
    pte % 2 = 1 := by
  simp [devFinal, h0] at h; omega

theorem finalPte_present (t pageShift pte lowBits va : Nat) (hp : pte % 2 = 1) :
    finalPte kernel t pageShift pte lowBits va =
      .ok ⟨(pte / 2^30 * 2^pageShift % W + va % 2^lowBits) % W, t⟩ := by
  have h0 : pte ≠ 0 := by omega
  have hp' : ¬ pte % 2 = 0 := by omega
  simp only [finalPte, h0, hp', and_false, if_false, rpnShift]

section
variable (mem : Mem) (t : Nat) (root : FullAddr) (mask : Nat) (pf : PagingForm) (va : Nat)

theorem pgtPpc64LinuxRpn30_eq (s : Step) :
    pgtPpc64LinuxRpn30 mem t mask pf s =
      match mem s.base.as s.base.addr 8 with
      | .error e => .error e
      | .ok v =>
        let pte := v &&& ((W - 1) ^^^ mask % W)
        let s' : Step := { s with raw := v }
        if pte = 0 then .error .notpresent
        else if s.remain > 1 then
          if pte % 4 ≠ 0 then .ok (hugePageLinux t pf s' pte 30)
          else if pte / 2^63 % 2 = 1 then
            .ok { s' with base := ⟨pte / 2^(3 + fieldAt pf (s.remain - 1)) * 2^(3 + fieldAt pf (s.remain - 1)), 2⟩ }
          else hugePdLinux pf s' pte
        else .ok { s' with base := ⟨(pte / 2^30 * 2^(fieldAt pf 0)) % W, t⟩, elemsz := 1 } := by
  unfold pgtPpc64LinuxRpn30 pgtPpc64Linux readPte
  cases h : mem s.base.as s.base.addr 8 with
  | error e => rfl
  | ok v =>
    simp only [bind, Except.bind, pure, Except.pure, throw, throwThe, MonadExceptOf.throw,
      isHugepteLinux, isHugepdLinux, testBit, clearLow, Kdf.Model.PgtPpc64.KVADDR]
    generalize v &&& ((W - 1) ^^^ mask % W) = pte
    by_cases h0 : pte = 0
    · simp [h0]
    · by_cases hr : s.remain > 1
      · by_cases h4 : pte % 4 = 0
        · by_cases h63 : pte / 2^63 % 2 = 1
          · simp [h0, hr, h4, h63]
          · simp [h0, hr, h4, h63]
        · simp [h0, hr, h4]
      · simp [h0, hr]

theorem loop_eq (hfmt : pf.fmt = .ppc64LinuxRpn30) (hmask : mask < W)
    (hspan : spanBits pf.fieldsz (pf.fieldsz.length - 1) ≤ 64) :
    ∀ r fuel (s : Step), r < pf.fieldsz.length → r + 1 ≤ fuel → s.remain = r + 1 → IdxOK pf va s.idx →
      s.elemsz = (if r = 0 then 1 else 8) → deviationClass mem pf.fieldsz mask va r s.base = 0 →
      (walkLoop extra mem (.pgt t root mask pf) fuel s).map (·.base)
        = descend kernel mem pf.fieldsz t mask va r s.base := by
  intro r
  induction r with
  | zero =>
    intro fuel s hr hfuel hrem hidx helem _
    obtain ⟨fuel, rfl⟩ : ∃ f, fuel = f + 1 := ⟨fuel - 1, by omega⟩
    exact walkLoop_page extra mem _ pf va fuel s hidx hr hrem helem
  | succ r ih =>
    intro fuel s hr hfuel hrem hidx helem hdev
    obtain ⟨fuel, rfl⟩ : ∃ f, fuel = f + 2 := ⟨fuel - 2, by omega⟩
    have hsp : spanBits pf.fieldsz (r + 1) ≤ 64 := Nat.le_trans (span_mono _ (by omega)) hspan
    rw [if_neg (Nat.succ_ne_zero r)] at helem
    rw [walkLoop_step extra mem _ (fuel + 1) r s hrem, descend]
    simp only [nextStep, nextStepPgt, extra, hfmt, pgtPpc64LinuxRpn30_eq]
    rw [deviationClass] at hdev
    simp only [idxAt, hidx.2 (r + 1) hr, helem, Nat.mod_eq_of_lt hmask] at hdev ⊢
    generalize (s.base.addr + va / 2 ^ spanBits pf.fieldsz (r + 1) % 2 ^ pf.fieldsz.getD (r + 1) 0 * 8) % W = A
      at hdev ⊢
    cases hm : mem s.base.as A 8 with
    | error e => rfl
    | ok v =>
      rw [hm] at hdev
      dsimp only at hdev ⊢
      generalize v &&& (W - 1 ^^^ mask) = pte at hdev ⊢
      cases r with
      | zero =>
        -- PTE page: the entry ends the translation
        simp only [if_true, Nat.lt_irrefl, if_false] at hdev ⊢
        by_cases h0 : pte = 0
        · subst h0; rfl
        · rw [finalPte_present _ _ _ _ _ (present_of_not_devFinal hdev h0)]
          simp only [h0, if_false]
          exact walkLoop_page extra mem _ pf va fuel _ hidx (Nat.lt_of_le_of_lt (Nat.zero_le _) hr) rfl rfl
      | succ r =>
        have hgt : r + 1 + 1 > 1 := Nat.succ_lt_succ (Nat.succ_pos r)
        simp only [Nat.succ_ne_zero, if_false, hgt, if_true] at hdev ⊢
        by_cases h0 : pte = 0
        · simp only [h0, if_true]; rfl
        · simp only [h0, if_false] at hdev ⊢
          by_cases h4 : pte % 4 = 0
          · -- directory entry
            simp only [h4, ne_eq, not_true, if_false] at hdev ⊢
            have hd : devDir pte = false := by revert hdev; cases devDir pte <;> simp
            simp only [hd, Bool.false_eq_true, if_false] at hdev
            rcases devDir_eq_false hd with ⟨h63, hps⟩ | ⟨h63, hps, hsh⟩
            · -- next table
              simp only [hps, if_true] at hdev
              simp only [h63, if_true, k_isHugepd, hps, ne_eq, not_true, decide_false, Bool.false_eq_true, if_false]
              exact ih (fuel + 1) _ (Nat.lt_of_succ_lt hr) (Nat.le_of_succ_le_succ hfuel) rfl hidx rfl hdev
            · -- hugepd of undefined page size
              have h63' : ¬ pte / 2^63 % 2 = 1 := by rw [h63]; decide
              simp only [h63', if_false, hugePdLinux, hugepdShift_eq, k_isHugepd, hps, ne_eq, not_false_eq_true,
                decide_true, if_true, hsh, Nat.not_lt_zero, false_and]
              rfl
          · -- leaf PTE of a huge page
            simp only [h4, ne_eq, not_false_eq_true, if_true] at hdev ⊢
            rw [finalPte_present _ _ _ _ _ (present_of_not_devFinal hdev h0)]
            exact walkLoop_huge extra mem _ pf va fuel (r + 1 + 1) _ hidx rfl (Nat.le_add_left 1 _) hr hsp

theorem walk_eq_spec_of_fields (hfmt : pf.fmt = .ppc64LinuxRpn30) (hlen : 0 < pf.fieldsz.length)
    (hfs : ∀ b ∈ pf.fieldsz, b < 64) (hspan : spanBits pf.fieldsz (pf.fieldsz.length - 1) ≤ 64)
    (hmask : mask < W) (hdev : knownDeviation mem t root mask pf va = false) :
    (walk extra mem (.pgt t root mask pf) va).map (·.base) = specPpc64 mem t root mask pf va := by
  unfold walk specPpc64 specWith
  simp only [firstStep, hfmt, firstStepPgtGeneric]
  by_cases hr : root.as = NOADDR
  · simp only [hr, if_true]; rfl
  · simp only [knownDeviation, knownDeviationClass, hr, if_false, ne_eq, decide_not, Bool.not_eq_false',
      decide_eq_true_eq] at hdev
    simp only [hr, if_false, Nat.ne_of_gt hlen]
    apply loop_eq mem t root mask pf va hfmt hmask hspan (pf.fieldsz.length - 1) _ _ (by omega) (by omega)
      (by show pf.fieldsz.length = _; omega) (idxOK_first pf va hfs) _ hdev
    show (if pf.fieldsz.length > 1 then _ else 1) = _
    by_cases h1 : pf.fieldsz.length > 1
    · rw [if_pos h1, if_neg (by omega)]
    · rw [if_neg h1, if_pos (by omega)]

end

/-! What `first_step_pgt_generic` makes of `va` on the two architectural forms (`f0`: page
offset, `f1`: PTE index, `f2`: PMD index, `f3`: PGD index). -/

local notation "f0" => 16

namespace Form1

local notation "f1" => 12
local notation "f2" => 12
local notation "f3" => 4

def idxs (va : Nat) : List Nat :=
  [va % 2^f0, va / 2^f0 % 2^f1, va / 2^(f0+f1) % 2^f2, va / 2^(f0+f1+f2) % 2^f3, va / 2^(f0+f1+f2+f3), 0, 0, 0, 0]

theorem idxAt0 (b : FullAddr) (r e va w : Nat) :
    idxAt { base := b, remain := r, elemsz := e, idx := idxs va, raw := w } 0 = va % 2^f0 := rfl
theorem idxAt1 (b : FullAddr) (r e va w : Nat) :
    idxAt { base := b, remain := r, elemsz := e, idx := idxs va, raw := w } 1 = va / 2^f0 % 2^f1 := rfl
theorem idxAt2 (b : FullAddr) (r e va w : Nat) :
    idxAt { base := b, remain := r, elemsz := e, idx := idxs va, raw := w } 2 = va / 2^(f0+f1) % 2^f2 := rfl
theorem idxAt3 (b : FullAddr) (r e va w : Nat) :
    idxAt { base := b, remain := r, elemsz := e, idx := idxs va, raw := w } 3 = va / 2^(f0+f1+f2) % 2^f3 := rfl
theorem idxAt0' (b : FullAddr) (r e x w : Nat) (l : List Nat) :
    idxAt { base := b, remain := r, elemsz := e, idx := x :: l, raw := w } 0 = x := rfl

end Form1

namespace Form2

local notation "f1" => 8
local notation "f2" => 10
local notation "f3" => 12

def idxs (va : Nat) : List Nat :=
  [va % 2^f0, va / 2^f0 % 2^f1, va / 2^(f0+f1) % 2^f2, va / 2^(f0+f1+f2) % 2^f3, va / 2^(f0+f1+f2+f3), 0, 0, 0, 0]

theorem idxAt0 (b : FullAddr) (r e va w : Nat) :
    idxAt { base := b, remain := r, elemsz := e, idx := idxs va, raw := w } 0 = va % 2^f0 := rfl
theorem idxAt1 (b : FullAddr) (r e va w : Nat) :
    idxAt { base := b, remain := r, elemsz := e, idx := idxs va, raw := w } 1 = va / 2^f0 % 2^f1 := rfl
theorem idxAt2 (b : FullAddr) (r e va w : Nat) :
    idxAt { base := b, remain := r, elemsz := e, idx := idxs va, raw := w } 2 = va / 2^(f0+f1) % 2^f2 := rfl
theorem idxAt3 (b : FullAddr) (r e va w : Nat) :
    idxAt { base := b, remain := r, elemsz := e, idx := idxs va, raw := w } 3 = va / 2^(f0+f1+f2) % 2^f3 := rfl
theorem idxAt0' (b : FullAddr) (r e x w : Nat) (l : List Nat) :
    idxAt { base := b, remain := r, elemsz := e, idx := x :: l, raw := w } 0 = x := rfl

end Form2

/-- **C02 / ppc64.** -/
theorem walk_eq_spec_ppc64 (mem : Mem) (t : Nat) (root : FullAddr) (pteMask : Nat) (pf : PagingForm)
    (va : Nat) (hform : archFormPpc64 pf = true) (hmask : pteMask < W)
    (hdev : knownDeviation mem t root pteMask pf va = false) :
    (walk extra mem (.pgt t root pteMask pf) va).map (·.base) = specPpc64 mem t root pteMask pf va := by
  obtain ⟨fmt, fieldsz⟩ := pf
  simp only [archFormPpc64, Bool.and_eq_true, Bool.or_eq_true, decide_eq_true_eq] at hform
  obtain ⟨rfl, rfl | rfl⟩ := hform
  · exact walk_eq_spec_of_fields mem t root pteMask _ va rfl (by decide) (by decide) (by decide) hmask hdev
  · exact walk_eq_spec_of_fields mem t root pteMask _ va rfl (by decide) (by decide) (by decide) hmask hdev

end Kdf.Props.C02Ppc64
