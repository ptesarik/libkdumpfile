import Kdf.Lemmas.XenRange
/-!
# C19 — `pfn2idx_map_search` on a sorted map (early exits, wrapping arithmetic)
-/
namespace Kdf.Lemmas.Xen
open Kdf.Model.Xen

/-- the two bounds the C code computes for a well-formed range are `lo` and `hi` -/
theorem scanRanges_cons (r : Range) (rs : List Range) (p : Nat) (h : ROk r) :
    scanRanges (r :: rs) p =
      if (p : Int) < lo r then none
      else if (p : Int) ≤ hi r then some (wrap (ixAt r p))
      else scanRanges rs p := by
  obtain ⟨hlen, hlo, hhi, -⟩ := h
  rw [scanRanges]
  unfold ixAt
  by_cases hl : 0 ≤ r.len
  · rw [lo_of_nonneg hl] at hlo ⊢
    rw [hi_of_nonneg hl] at hhi ⊢
    rw [if_pos hl, if_pos hl, wrap_of_lt _ hlo (by omega)]
    simp only [Int.lt_toNat, Int.ofNat_le]
  · have hl' := Int.not_le.mp hl
    rw [hi_of_neg hl'] at hhi ⊢
    rw [lo_of_neg hl']
    rw [if_neg hl, if_neg hl, wrap_of_lt _ (by omega) hhi]
    simp only [Int.le_toNat (show 0 ≤ (r.pfn : Int) - r.len - 1 by omega), Int.ofNat_lt]

theorem scan_hit (rs : List Range) (p : Nat)
    (hok : ∀ r ∈ rs, ROk r) (hs : rs.Pairwise (fun a b => hi a < lo b))
    (r : Range) (hr : r ∈ rs) (h1 : lo r ≤ (p : Int)) (h2 : (p : Int) ≤ hi r) :
    scanRanges rs p = some (wrap (ixAt r p)) := by
  induction rs with
  | nil => cases hr
  | cons r0 rs ih =>
    rw [List.forall_mem_cons] at hok
    rw [List.pairwise_cons] at hs
    rw [scanRanges_cons r0 rs p hok.1]
    rcases List.mem_cons.mp hr with rfl | hr'
    · rw [if_neg (Int.not_lt.mpr h1), if_pos h2]
    · have hlt := hs.1 r hr'
      have := lo_le_hi hok.1.len_ne
      rw [if_neg (by omega), if_neg (by omega)]
      exact ih hok.2 hs.2 hr'

theorem scan_miss (rs : List Range) (p : Nat) (hok : ∀ r ∈ rs, ROk r)
    (hn : ∀ r ∈ rs, ¬ (lo r ≤ (p : Int) ∧ (p : Int) ≤ hi r)) :
    scanRanges rs p = none := by
  induction rs with
  | nil => rfl
  | cons r0 rs ih =>
    rw [List.forall_mem_cons] at hok hn
    rw [scanRanges_cons r0 rs p hok.1]
    have hn0 := hn.1
    by_cases c1 : (p : Int) < lo r0
    · rw [if_pos c1]
    · rw [if_neg c1, if_neg (by omega)]
      exact ih hok.2 hn.2

theorem singles_hit (ss : List Single) (p : Nat)
    (hs : ss.Pairwise (fun a b => a.pfn < b.pfn))
    (s : Single) (hm : s ∈ ss) (hsp : s.pfn = p) : scanSingles ss p = s.idx := by
  induction ss with
  | nil => cases hm
  | cons s0 ss ih =>
    rw [List.pairwise_cons] at hs
    unfold scanSingles
    rcases List.mem_cons.mp hm with rfl | hm'
    · subst hsp
      simp only [ge_iff_le, Nat.le_refl, if_true]
    · have hlt := hs.1 s hm'
      have c1 : p ≥ s0.pfn := by omega
      have c2 : ¬ s0.pfn = p := by omega
      simp only [c1, c2, if_true, if_false]
      exact ih hs.2 hm'

theorem singles_miss (ss : List Single) (p : Nat)
    (hn : ∀ s ∈ ss, s.pfn ≠ p) : scanSingles ss p = IDX_NONE := by
  induction ss with
  | nil => rfl
  | cons s0 ss ih =>
    rw [List.forall_mem_cons] at hn
    unfold scanSingles
    rw [if_neg hn.1]
    split
    · exact ih hn.2
    · rfl

theorem search_covers (m : PMap) (h : Sorted m) (p i : Nat) (hc : Covers m p i) : Covers m p (search m p) := by
  unfold search
  by_cases hn : InRange m p
  · obtain ⟨r, hr, h1, h2⟩ := hn
    have hb := (h.rok r hr).ixAt_bounds h1 h2
    rw [scan_hit m.ranges p h.rok h.rsorted r hr h1 h2, wrap_of_lt _ hb.1 hb.2]
    exact Or.inl ⟨r, hr, (h.rok r hr).at_toNat h1 h2⟩
  · rw [scan_miss m.ranges p h.rok fun r hr hc => hn ⟨r, hr, hc⟩]
    rcases hc with ⟨r, hr, h1, h2, -⟩ | ⟨s, hs, hsp, -⟩
    · exact absurd ⟨r, hr, h1, h2⟩ hn
    · exact Or.inr ⟨s, hs, hsp, (singles_hit m.singles p h.ssorted s hs hsp).symm⟩

theorem search_not_covered (m : PMap) (h : Sorted m) (p : Nat) (hn : ∀ i, ¬ Covers m p i) :
    search m p = IDX_NONE := by
  unfold search
  rw [scan_miss m.ranges p h.rok fun r hr hc => hn _ (Or.inl ⟨r, hr, (h.rok r hr).at_toNat hc.1 hc.2⟩)]
  exact singles_miss m.singles p fun s hs hsp => hn s.idx (Or.inr ⟨s, hs, hsp, rfl⟩)

end Kdf.Lemmas.Xen
