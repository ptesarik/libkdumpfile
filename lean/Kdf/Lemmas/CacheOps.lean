import Kdf.Lemmas.CachePrim
/-!
The API operations of the page-cache model (C06): `get`, `insert`, `put`, `discard`.
-/
namespace Kdf.Lemmas.Cache
open Kdf.Model.Cache Kdf.Lemmas.CacheList

structure GetFrame (c c' : Cache) : Prop where
  cach : ∀ i ∈ cached c', i ∈ cached c ∧ c'.key i = c.key i ∧ c'.dataOf i = c.dataOf i
  refd : ∀ i ∈ live c, c.refcnt i ≠ 0 →
    i ∈ live c' ∧ c'.key i = c.key i ∧ c'.dataOf i = c.dataOf i ∧ c'.refcnt i ≥ c.refcnt i

theorem GetFrame.of_same {c c' : Cache} (hc : ∀ i, i ∈ cached c' ↔ i ∈ cached c) (hF : c'.F = c.F)
    (hent : ∀ i, (c'.ent i).key = (c.ent i).key ∧ (c'.ent i).data = (c.ent i).data ∧
      (c'.ent i).refcnt ≥ (c.ent i).refcnt) : GetFrame c c' :=
  ⟨fun i hi => ⟨(hc i).1 hi, (hent i).1, (hent i).2.1⟩, fun i hi _ =>
    ⟨(List.mem_append.1 hi).elim (fun h => List.mem_append_left _ ((hc i).2 h))
      fun h => List.mem_append_right _ (hF ▸ h), hent i⟩⟩

def GetOut (c : Cache) (k : Nat) (c' : Cache) : Out → Prop
  | .busy => c' = c ∧ (∀ i ∈ live c, c.key i ≠ k) ∧ c.pinned + c.F.length ≥ c.cap
  | .entry i true => i ∈ cached c ∧ c.key i = k ∧ i ∈ cached c'
  | .entry i false => i ∈ c'.F ∧ c'.key i = k ∧
      ((∃ j ∈ live c, c.key j = k) ∨ c.pinned + c.F.length < c.cap)
  | .done => False

/-- the reference taken by `cache_get_entry` -/
def incref (c : Cache) (e : Nat) : Cache := c.modEnt e (fun x => { x with refcnt := x.refcnt + 1 })

section
variable {c : Cache} {k e : Nat}

theorem get_P (h : c.P.find? (fun i => c.key i = k) = some e) :
    get c k = .ok (incref { c with P := e :: c.P.erase e, hits := c.hits + 1 } e, .entry e true) := by
  unfold Kdf.Model.Cache.get
  simp only [h]
  rfl

theorem get_B (hP : c.P.find? (fun i => c.key i = k) = none)
    (h : c.B.reverse.find? (fun i => c.key i = k) = some e) :
    get c k = .ok (incref { c with B := c.B.erase e, P := e :: c.P, hits := c.hits + 1 } e,
      .entry e true) := by
  unfold Kdf.Model.Cache.get
  simp only [hP, h]
  rfl

theorem get_F (hP : c.P.find? (fun i => c.key i = k) = none)
    (hB : c.B.reverse.find? (fun i => c.key i = k) = none)
    (h : c.F.find? (fun i => c.key i = k) = some e) :
    get c k = .ok (incref { c.modEnt e (fun x => { x with state := .precious }) with
      misses := c.misses + 1 } e, .entry e false) := by
  unfold Kdf.Model.Cache.get
  simp only [hP, hB, h]
  rfl

theorem get_busy (hP : c.P.find? (fun i => c.key i = k) = none)
    (hB : c.B.reverse.find? (fun i => c.key i = k) = none)
    (hF : c.F.find? (fun i => c.key i = k) = none) (hb : c.pinned + c.F.length ≥ c.cap) :
    get c k = .ok (c, .busy) := by
  unfold Kdf.Model.Cache.get
  simp only [hP, hB, hF, hb, if_true]

theorem get_GP (hP : c.P.find? (fun i => c.key i = k) = none)
    (hB : c.B.reverse.find? (fun i => c.key i = k) = none)
    (hF : c.F.find? (fun i => c.key i = k) = none) (hb : ¬ c.pinned + c.F.length ≥ c.cap)
    (h : c.GP.find? (fun i => c.key i = k) = some e) :
    ∃ d, get c k = (ghostHit { c with dprobe := d } e true).bind
      (fun c2 => .ok (incref { c2 with misses := c2.misses + 1 } e, .entry e false)) := by
  unfold Kdf.Model.Cache.get
  simp only [hP, hB, hF, hb, if_false, h]
  exact ⟨_, rfl⟩

theorem get_GB (hP : c.P.find? (fun i => c.key i = k) = none)
    (hB : c.B.reverse.find? (fun i => c.key i = k) = none)
    (hF : c.F.find? (fun i => c.key i = k) = none) (hb : ¬ c.pinned + c.F.length ≥ c.cap)
    (hGP : c.GP.find? (fun i => c.key i = k) = none)
    (h : c.GB.reverse.find? (fun i => c.key i = k) = some e) :
    ∃ d, get c k = (ghostHit { c with dprobe := d } e false).bind
      (fun c2 => .ok (incref { c2 with misses := c2.misses + 1 } e, .entry e false)) := by
  unfold Kdf.Model.Cache.get
  simp only [hP, hB, hF, hb, if_false, hGP, h]
  exact ⟨_, rfl⟩

theorem get_miss (hP : c.P.find? (fun i => c.key i = k) = none)
    (hB : c.B.reverse.find? (fun i => c.key i = k) = none)
    (hF : c.F.find? (fun i => c.key i = k) = none) (hb : ¬ c.pinned + c.F.length ≥ c.cap)
    (hGP : c.GP.find? (fun i => c.key i = k) = none)
    (hGB : c.GB.reverse.find? (fun i => c.key i = k) = none) :
    get c k = (missed c k).bind
      (fun r => .ok (incref { r.1 with misses := r.1.misses + 1 } r.2, .entry r.2 false)) := by
  unfold Kdf.Model.Cache.get
  simp only [hP, hB, hF, hb, if_false, hGP, hGB]
  rfl

end

theorem abs_incref (c : Cache) {e : Nat} (he : e < c.ents.length) :
    abs (incref c e) = (abs c).setEnt e { c.ent e with refcnt := (c.ent e).refcnt + 1 } :=
  abs_modEnt c _ he

variable {c : Cache} {st : Prop}

theorem no_key_of_find {k : Nat} (hP : c.P.find? (fun i => c.key i = k) = none)
    (hB : c.B.reverse.find? (fun i => c.key i = k) = none)
    (hF : c.F.find? (fun i => c.key i = k) = none) : ∀ i ∈ live c, c.key i ≠ k := by
  intro i hi
  rw [List.find?_eq_none] at hP hB hF
  unfold live at hi
  simp only [List.mem_append] at hi
  rcases hi with (hi | hi) | hi
  · simpa using hB i (by simpa using hi)
  · simpa using hP i hi
  · simpa using hF i hi

theorem finish_miss {c2 : Cache} {e : Nat} {v : Entry} {s : St}
    (hpl : PreLaunch st c2 e v s) (hfr : FrameS (abs c) s)
    (hvs : v.state ≠ .valid) (hvk : ∀ i ∈ live c, c.key i ≠ v.key) {c' : Cache} {m : Nat}
    (hc' : c' = incref { c2 with misses := m } e) :
    InvS c' st ∧ c'.cap = c.cap ∧ GetFrame c c' ∧ e ∈ c'.F ∧ c'.key e = v.key := by
  obtain ⟨hl2, hinv, hdata, hvdata, habs2⟩ := hpl
  have habs : abs c' = St.setEnt { s with F := s.F ++ [e] } e { v with refcnt := v.refcnt + 1 } := by
    have hv : c2.ent e = v := by simpa using congrArg (fun t => St.ent t e) habs2
    rw [hc', abs_incref { c2 with misses := m } (show e < c2.ents.length from hl2 ▸ hinv.lt_of_mem (by simp))]
    show (abs c2).setEnt e { c2.ent e with refcnt := (c2.ent e).refcnt + 1 } = _
    rw [habs2, St.setEnt_setEnt, hv]
  have hlen' : c'.ents.length = 2 * c'.cap := by
    rw [show c'.cap = s.cap from congrArg St.cap habs, hc']; simpa [incref] using hl2
  have hB : c'.B = s.B := congrArg St.B habs
  have hP : c'.P = s.P := congrArg St.P habs
  have hF : c'.F = s.F ++ [e] := congrArg St.F habs
  have hent : ∀ j, c'.ent j = if j = e then { v with refcnt := v.refcnt + 1 } else s.ent j :=
    fun j => congrArg (fun t => St.ent t j) habs
  -- the cached and in-flight entries of `s` are entries of `c`, untouched since
  have henl : e ∉ s.B ++ s.P ++ s.F := (hinv.excl e).idle_live (by simp)
  have hsame : ∀ i ∈ s.B ++ s.P ++ s.F, c'.ent i = c.ent i := fun i hi => by
    rw [hent, if_neg fun h : i = e => henl (h ▸ hi)]
    exact hfr.ent_live i hi
  have hI := hinv.launch (v := { v with refcnt := v.refcnt + 1 }) hdata hvdata hvs (Nat.succ_ne_zero _)
    fun i hi => hfr.ent_live i hi ▸ hvk i (hfr.mem_live hi)
  refine ⟨⟨hlen', habs ▸ hI⟩, (congrArg St.cap habs).trans hfr.cap, ⟨fun i hi => ?_, fun i hi hr => ?_⟩,
    by simp [hF], by simp [Cache.key, hent]⟩
  · rw [cached, hB, hP] at hi
    have := hsame i (List.mem_append_left _ hi)
    exact ⟨hfr.sub i hi, by simp [Cache.key, this], by simp [Cache.dataOf, this]⟩
  · have hl := hfr.keep_live hi hr
    have := hsame i hl
    refine ⟨?_, by simp [Cache.key, this], by simp [Cache.dataOf, this], by simp [Cache.refcnt, this]⟩
    rw [live, hB, hP, hF, ← List.append_assoc]
    exact List.mem_append_left _ hl

theorem get_hit {c c1 : Cache} {st : Prop} (hlen : c.ents.length = 2 * c.cap) (hents : c1.ents = c.ents)
    (hcap : c1.cap = c.cap) (hF : c1.F = c.F) (hc : (cached c1).Perm (cached c))
    (hI1 : InvH (abs c1) [] [] st) {e k : Nat} (he : e ∈ cached c) (hek : c.key e = k) :
    InvS (incref c1 e) st ∧ (incref c1 e).cap = c.cap ∧ GetFrame c (incref c1 e) ∧
      GetOut c k (incref c1 e) (.entry e true) := by
  have he1 : e ∈ (abs c1).B ++ (abs c1).P ++ (abs c1).F := List.mem_append_left _ (hc.mem_iff.2 he)
  have helt : e < c1.ents.length := by rw [hents, hlen, ← hcap]; exact hI1.lt_of_live he1
  have hent : c1.ent = c.ent := by funext j; simp [Cache.ent, hents]
  refine ⟨⟨by simp [incref, hents, hlen, hcap], ?_⟩, hcap, .of_same (fun _ => hc.mem_iff) hF fun i => ?_,
    he, hek, hc.mem_iff.2 he⟩
  · rw [abs_incref c1 helt]
    exact hI1.update rfl rfl Iff.rfl (fun _ _ => he1) (fun _ _ => Nat.succ_ne_zero _)
  · rw [← hent, incref, ent_modEnt]
    split
    · rename_i h; rw [h.1]; simp
    · simp

theorem get_inflight (h : InvS c st) {e k : Nat} (heF : e ∈ c.F)
    (hek : c.key e = k) (m : Nat) {c' : Cache}
    (hc' : c' = incref { c.modEnt e (fun x => { x with state := .precious }) with misses := m } e) :
    InvS c' st ∧ GetFrame c c' ∧ GetOut c k c' (.entry e false) := by
  obtain ⟨hlen, hI⟩ := h
  have hel : e ∈ (abs c).B ++ (abs c).P ++ (abs c).F := List.mem_append_right _ heF
  have helt : e < c.ents.length := by rw [hlen]; exact hI.lt_of_live hel
  have habs : abs c' =
      (abs c).setEnt e { c.ent e with state := .precious, refcnt := (c.ent e).refcnt + 1 } := by
    rw [hc', abs_incref _ (by simpa using helt)]
    show (abs (c.modEnt e _)).setEnt e
      { (c.modEnt e _).ent e with refcnt := ((c.modEnt e _).ent e).refcnt + 1 } = _
    rw [abs_modEnt c _ helt, St.setEnt_setEnt, ent_modEnt, if_pos ⟨rfl, helt⟩]
  have hF : c'.F = c.F := congrArg St.F habs
  have hsame : ∀ i, (c'.ent i).key = (c.ent i).key ∧ (c'.ent i).data = (c.ent i).data ∧
      (c'.ent i).refcnt ≥ (c.ent i).refcnt := fun i => by
    rw [show c'.ent i = _ from congrArg (fun t => St.ent t i) habs, St.setEnt_ent]
    split
    · rename_i hi; rw [hi]; exact ⟨rfl, rfl, Nat.le_succ _⟩
    · exact ⟨rfl, rfl, Nat.le_refl _⟩
  refine ⟨⟨by simp [hc', incref, hlen], ?_⟩,
    .of_same (fun i => by rw [cached, cached, show c'.B = c.B from congrArg St.B habs,
      show c'.P = c.P from congrArg St.P habs]) hF hsame,
    hF ▸ heF, (hsame e).1.trans hek, .inl ⟨e, List.mem_append_right _ heF, hek⟩⟩
  rw [habs]
  exact hI.update rfl rfl (by simpa using hI.inflight_invalid e heF) (fun _ _ => hel)
    (fun _ _ => Nat.succ_ne_zero _)

theorem get_ghost (h : InvS c st) {k : Nat} (hp : c.pinned + c.F.length < c.cap)
    (hnk : ∀ i ∈ live c, c.key i ≠ k) {e : Nat} (fromGP : Bool)
    (he : if fromGP then e ∈ c.GP else e ∈ c.GB) (hek : c.key e = k) {d : Nat}
    (hget : get c k = (ghostHit { c with dprobe := d } e fromGP).bind
      (fun c2 => .ok (incref { c2 with misses := c2.misses + 1 } e, .entry e false))) :
    ∃ c' o, get c k = .ok (c', o) ∧ InvS c' st ∧ c'.cap = c.cap ∧ GetFrame c c' ∧ GetOut c k c' o := by
  obtain ⟨c2, v, s, hgh, hpl, hfr, hvk, hvs⟩ :=
    ghostHit_spec (c := { c with dprobe := d }) ⟨h.1, h.2⟩ hp fromGP he
  obtain ⟨hI', hcap', hfr', heF', hkey'⟩ := finish_miss (c := c) (m := c2.misses + 1) hpl hfr
    (by rw [hvs]; decide) (by rw [hvk]; exact fun i hi => hek ▸ hnk i hi) rfl
  refine ⟨incref { c2 with misses := c2.misses + 1 } e, .entry e false, by rw [hget, hgh]; rfl,
    hI', hcap', hfr', heF', ?_, Or.inr hp⟩
  rw [hkey', hvk]; exact hek

theorem get_spec (h : InvS c st) (k : Nat) :
    ∃ c' o, get c k = .ok (c', o) ∧ InvS c' st ∧ c'.cap = c.cap ∧ GetFrame c c' ∧
      GetOut c k c' o := by
  have hlen := h.1
  have hI := h.2
  cases hP : c.P.find? (fun i => c.key i = k) with
  | some e =>
    have heP : e ∈ c.P := List.mem_of_find?_eq_some hP
    exact ⟨_, _, get_P hP, get_hit (c1 := { c with P := e :: c.P.erase e, hits := c.hits + 1 }) hlen rfl
      rfl rfl ((List.perm_cons_erase heP).symm.append_left _) (hI.hit (.inl ⟨heP, rfl⟩)) (by simp [cached, heP])
      (by simpa using List.find?_some hP)⟩
  | none =>
  cases hB : c.B.reverse.find? (fun i => c.key i = k) with
  | some e =>
    have heB : e ∈ c.B := by simpa using List.mem_of_find?_eq_some hB
    exact ⟨_, _, get_B hP hB, get_hit (c1 := { c with B := c.B.erase e, P := e :: c.P, hits := c.hits + 1 })
      hlen rfl rfl rfl (List.perm_middle.trans ((List.perm_cons_erase heB).symm.append_right _))
      (hI.hit (.inr ⟨heB, rfl⟩)) (by simp [cached, heB]) (by simpa using List.find?_some hB)⟩
  | none =>
  cases hF : c.F.find? (fun i => c.key i = k) with
  | some e =>
    obtain ⟨h1, h2, h3⟩ := get_inflight h (List.mem_of_find?_eq_some hF)
      (by simpa using List.find?_some hF) (c.misses + 1) rfl
    exact ⟨_, _, get_F hP hB hF, h1, rfl, h2, h3⟩
  | none =>
  have hnk := no_key_of_find hP hB hF
  by_cases hb : c.pinned + c.F.length ≥ c.cap
  · refine ⟨c, .busy, get_busy hP hB hF hb, h, rfl, ?_, rfl, hnk, hb⟩
    exact GetFrame.of_same (fun i => Iff.rfl) rfl (fun i => ⟨rfl, rfl, Nat.le_refl _⟩)
  · have hp : c.pinned + c.F.length < c.cap := by omega
    cases hGP : c.GP.find? (fun i => c.key i = k) with
    | some e =>
      obtain ⟨d, hget⟩ := get_GP hP hB hF hb hGP
      exact get_ghost h hp hnk true (List.mem_of_find?_eq_some hGP)
        (by simpa using List.find?_some hGP) hget
    | none =>
    cases hGB : c.GB.reverse.find? (fun i => c.key i = k) with
    | some e =>
      obtain ⟨d, hget⟩ := get_GB hP hB hF hb hGP hGB
      exact get_ghost h hp hnk false (by simpa using List.mem_of_find?_eq_some hGB)
        (by simpa using List.find?_some hGB) hget
    | none =>
      obtain ⟨c2, e, v, s, hm, hpl, hfr, hvk, hvs⟩ := missed_spec h hp k
      obtain ⟨hI', hcap', hfr', heF', hkey'⟩ := finish_miss (m := c2.misses + 1) hpl hfr (by rw [hvs]; decide)
        (by rw [hvk]; exact hnk) rfl
      refine ⟨incref { c2 with misses := c2.misses + 1 } e, .entry e false,
        by rw [get_miss hP hB hF hb hGP hGB, hm]; rfl, hI', hcap', hfr', heF', ?_, Or.inr hp⟩
      rw [hkey', hvk]

theorem get_spec_of_ok (h : InvS c st) {k : Nat} {c' : Cache} {o : Out}
    (hs : get c k = .ok (c', o)) : InvS c' st ∧ c'.cap = c.cap ∧ GetFrame c c' ∧ GetOut c k c' o := by
  obtain ⟨c'', o', hg, hr⟩ := get_spec h k
  rw [hg] at hs
  simp only [Except.ok.injEq, Prod.mk.injEq] at hs
  obtain ⟨rfl, rfl⟩ := hs
  exact hr

/-- what every operation leaves alone: entries that are cached afterwards have the key and
the buffer they had before -/
def StepFrame (c c' : Cache) : Prop :=
  ∀ i ∈ cached c', c'.key i = c.key i ∧ c'.dataOf i = c.dataOf i

theorem modEnt_same (c : Cache) (e : Nat) (f : Entry → Entry)
    (hk : ∀ x, (f x).key = x.key) (hd : ∀ x, (f x).data = x.data) (i : Nat) :
    (c.modEnt e f).key i = c.key i ∧ (c.modEnt e f).dataOf i = c.dataOf i := by
  unfold Cache.key Cache.dataOf
  rw [ent_modEnt]
  split
  · rename_i h; rw [h.1]; exact ⟨hk _, hd _⟩
  · exact ⟨rfl, rfl⟩

theorem insert_spec (h : InvS c st) {e : Nat} {c' : Cache} {o : Out}
    (hs : insert c e = .ok (c', o)) : InvS c' st ∧ StepFrame c c' := by
  have hlen := h.1
  have hI := h.2
  unfold Kdf.Model.Cache.insert at hs
  split at hs
  · simp only [Except.ok.injEq, Prod.mk.injEq] at hs
    obtain ⟨rfl, -⟩ := hs
    exact ⟨h, fun i _ => ⟨rfl, rfl⟩⟩
  · split at hs
    · rename_i hnv heF
      simp only [Except.ok.injEq, Prod.mk.injEq] at hs
      obtain ⟨rfl, -⟩ := hs
      have helt : e < c.ents.length := by rw [hlen]; exact hI.lt_of_mem (by simp [heF])
      refine ⟨⟨?_, ?_⟩, ?_⟩
      · rw [modEnt_len]; split <;> exact hlen
      · split
        · rw [abs_modEnt (c := { c with F := c.F.erase e, B := c.B ++ [e] }) _ helt]
          exact hI.insert heF (.inl rfl)
        · rw [abs_modEnt (c := { c with F := c.F.erase e, P := e :: c.P }) _ helt]
          exact hI.insert heF (.inr rfl)
      · intro i _
        split
        · exact modEnt_same { c with F := c.F.erase e, B := c.B ++ [e] } e
            (fun x => { x with state := .valid }) (fun _ => rfl) (fun _ => rfl) i
        · exact modEnt_same { c with F := c.F.erase e, P := e :: c.P } e
            (fun x => { x with state := .valid }) (fun _ => rfl) (fun _ => rfl) i
    · cases hs

theorem refcnt_lt_len {e : Nat} (hr : c.refcnt e ≠ 0) : e < c.ents.length := by
  apply Classical.byContradiction
  intro hn
  have := ent_default c (Nat.le_of_not_lt hn)
  apply hr
  simp only [Cache.refcnt, this]
  rfl

theorem refcnt_modEnt (c : Cache) (e : Nat) (f : Entry → Entry) (j : Nat) :
    (c.modEnt e f).refcnt j =
      if j = e ∧ e < c.ents.length then (f (c.ent e)).refcnt else c.refcnt j := by
  unfold Cache.refcnt
  rw [ent_modEnt]
  by_cases h : j = e ∧ e < c.ents.length
  · rw [if_pos h, if_pos h]
  · rw [if_neg h, if_neg h]

theorem refcnt_modEnt_keeps (c : Cache) (e : Nat) (f : Entry → Entry)
    (hf : ∀ x, (f x).refcnt = x.refcnt) (i : Nat) : (c.modEnt e f).refcnt i = c.refcnt i := by
  rw [refcnt_modEnt]
  split
  · rename_i h; rw [h.1, hf]; rfl
  · rfl

/-- the reference dropped by `cache_put_entry` and `cache_discard` -/
def decref (c : Cache) (e : Nat) : Cache := c.modEnt e (fun x => { x with refcnt := x.refcnt - 1 })

theorem refcnt_decref (c : Cache) {e : Nat} (he : e < c.ents.length) (j : Nat) :
    (decref c e).refcnt j = if j = e then c.refcnt e - 1 else c.refcnt j := by
  unfold decref
  rw [refcnt_modEnt]
  by_cases hj : j = e
  · rw [if_pos ⟨hj, he⟩, if_pos hj]; rfl
  · rw [if_neg (fun h => hj h.1), if_neg hj]

theorem decref_same (c : Cache) (e j : Nat) :
    (decref c e).key j = c.key j ∧ (decref c e).dataOf j = c.dataOf j :=
  modEnt_same c e (fun x => { x with refcnt := x.refcnt - 1 }) (fun _ => rfl) (fun _ => rfl) j

theorem decref_state (c : Cache) (e i : Nat) : ((decref c e).ent i).state = (c.ent i).state := by
  unfold decref
  rw [ent_modEnt]
  split
  · rename_i h; rw [h.1]
  · rfl

theorem cached_live {i : Nat} (hi : i ∈ cached c) : i ∈ live c :=
  List.mem_append_left _ hi

theorem inflight_live {i : Nat} (hi : i ∈ c.F) : i ∈ live c :=
  List.mem_append_right _ hi

theorem not_cached_of_inflight (h : InvS c st) {i : Nat} (hi : i ∈ c.F) :
    i ∉ cached c :=
  fun hc => h.2.inflight_invalid i hi (h.2.cached_valid i hc)

theorem live_lt (h : InvS c st) {i : Nat} (hi : i ∈ live c) : i < 2 * c.cap :=
  h.2.lt_of_live hi

theorem data_lt_cap (h : InvS c st) {i d : Nat} (hi : i < 2 * c.cap)
    (hd : c.dataOf i = some d) : d < c.cap :=
  List.mem_range.1 ((List.nil_append _ ▸ h.2.bufs).mem_iff.1
    (List.mem_filterMap.2 ⟨i, List.mem_range.2 hi, hd⟩))

theorem decref_spec (h : InvS c st) {e : Nat} (hr : c.refcnt e ≠ 0)
    (hf : st → e ∈ c.F → (c.ent e).refcnt - 1 ≠ 0) :
    InvS (decref c e) st ∧ StepFrame c (decref c e) := by
  refine ⟨⟨(modEnt_len c e _).trans h.1, ?_⟩, fun i _ => decref_same c e i⟩
  rw [decref, abs_modEnt c _ (refcnt_lt_len hr)]
  exact h.2.update rfl rfl Iff.rfl (fun _ hlt => h.2.ref_live e hlt hr) hf

theorem put_eq {e : Nat} (hr : c.refcnt e ≠ 0) : put c e = .ok (decref c e, .done) := by
  unfold Kdf.Model.Cache.put
  rw [if_neg hr]; rfl

theorem put_spec (h : InvS c st) {e : Nat} {c' : Cache} {o : Out}
    (hs : put c e = .ok (c', o)) (hput : st → e ∈ c.F → c.refcnt e ≠ 1) :
    InvS c' st ∧ StepFrame c c' := by
  unfold Kdf.Model.Cache.put at hs
  split at hs
  · cases hs
  · rename_i hr
    simp only [Except.ok.injEq, Prod.mk.injEq] at hs
    obtain ⟨rfl, -⟩ := hs
    refine decref_spec h hr fun hst heF => ?_
    have := hput hst heF
    simp only [Cache.refcnt] at this hr ⊢
    omega

theorem discard_eq {e : Nat} (hr : c.refcnt e ≠ 0) :
    discard c e =
      if c.refcnt e ≠ 1 ∨ (c.ent e).state = .valid then .ok (decref c e, .done)
      else if e ∈ c.F then
        .ok ({ decref c e with F := c.F.erase e, U := c.U ++ [e] }, .done)
      else .error (.proto "cache_discard of an entry that is neither valid nor in flight") := by
  have h1 : (decref c e).refcnt e = c.refcnt e - 1 := by
    rw [refcnt_decref c (refcnt_lt_len hr), if_pos rfl]
  unfold Kdf.Model.Cache.discard
  rw [if_neg hr]
  show (if (decref c e).refcnt e ≠ 0 then _ else if ((decref c e).ent e).state = .valid then _ else _) = _
  rw [h1, decref_state]
  by_cases hlast : c.refcnt e ≠ 1 ∨ (c.ent e).state = .valid
  · rw [if_pos hlast]
    by_cases h2 : c.refcnt e - 1 ≠ 0
    · rw [if_pos h2]; rfl
    · rw [if_neg h2, if_pos (hlast.resolve_left (by omega))]; rfl
  · have h2 : ¬ c.refcnt e - 1 ≠ 0 := fun h => hlast (Or.inl (by omega))
    have h3 : ¬ (c.ent e).state = .valid := fun h => hlast (Or.inr h)
    rw [if_neg hlast, if_neg h2, if_neg h3]
    rfl

theorem discard_spec (h : InvS c st) {e : Nat} {c' : Cache} {o : Out}
    (hs : discard c e = .ok (c', o)) : InvS c' st ∧ StepFrame c c' := by
  have hr : (c.ent e).refcnt ≠ 0 := fun h0 => by
    unfold Kdf.Model.Cache.discard at hs
    rw [if_pos (show c.refcnt e = 0 from h0)] at hs
    cases hs
  rw [discard_eq hr] at hs
  split at hs
  · rename_i hlast
    simp only [Except.ok.injEq, Prod.mk.injEq] at hs
    obtain ⟨rfl, -⟩ := hs
    exact decref_spec h hr fun _ heF hz =>
      hlast.elim (fun h1 => h1 (show (c.ent e).refcnt = 1 by omega)) (h.2.inflight_invalid e heF)
  · rename_i hlast
    split at hs
    · rename_i heF
      simp only [Except.ok.injEq, Prod.mk.injEq] at hs
      obtain ⟨rfl, -⟩ := hs
      have hr0 : (c.ent e).refcnt - 1 = 0 := by
        have : ¬ (c.ent e).refcnt ≠ 1 := fun h1 => hlast (Or.inl h1)
        omega
      refine ⟨⟨(modEnt_len c e _).trans h.1, ?_⟩, fun i _ => decref_same c e i⟩
      show InvH (abs ({ c with F := c.F.erase e, U := c.U ++ [e] }.modEnt e _)) [] [] st
      rw [abs_modEnt { c with F := c.F.erase e, U := c.U ++ [e] } _ (refcnt_lt_len hr)]
      exact hr0 ▸ h.2.discardF heF
    · cases hs

end Kdf.Lemmas.Cache
