import Kdf.Lemmas.PfnScan
/-! `regionsFromBitmap`: each round of the loop skips a gap and emits a run. -/
namespace Kdf.Lemmas.Pfn
open Kdf.Model.Pfn

/-- number of `i < n` with `f (a+i)` -/
def cntB (f : Nat → Bool) (a n : Nat) : Nat := ((List.range n).filter (fun i => f (a+i))).length

theorem cntB_succ (f : Nat → Bool) (a n : Nat) :
    cntB f a (n+1) = cntB f a n + (if f (a+n) then 1 else 0) := by
  unfold cntB
  rw [List.range_succ, List.filter_append]
  by_cases h : f (a+n) <;> simp [h]

theorem cntB_add (f : Nat → Bool) (a m n : Nat) : cntB f a (m+n) = cntB f a m + cntB f (a+m) n := by
  induction n with
  | zero => simp [cntB]
  | succ n ih => rw [← Nat.add_assoc, cntB_succ, cntB_succ, ih, Nat.add_assoc a m n]; omega

theorem cntB_false (f : Nat → Bool) (a n : Nat) (h : ∀ i, i < n → f (a+i) = false) : cntB f a n = 0 := by
  induction n with
  | zero => simp [cntB]
  | succ n ih => rw [cntB_succ, ih (fun i hi => h i (by omega)), h n (by omega)]; simp

theorem cntB_true (f : Nat → Bool) (a n : Nat) (h : ∀ i, i < n → f (a+i) = true) : cntB f a n = n := by
  induction n with
  | zero => simp [cntB]
  | succ n ih => rw [cntB_succ, ih (fun i hi => h i (by omega)), h n (by omega)]; simp

/-- `L` lists the maximal runs of `f` inside `[pfn, endPfn)`, file positions counted from `pos` -/
def RunsFrom (f : Nat → Bool) (endPfn elemsz pfn pos : Nat) (L : List Region) : Prop :=
  RegionsMaximal L ∧
  (∀ r ∈ L, pfn ≤ r.pfn ∧ r.pfn + r.cnt ≤ endPfn ∧ ∀ p, r.has p → f p = true) ∧
  (∀ p, pfn ≤ p → p < endPfn → f p = true → ∃ r ∈ L, r.has p) ∧
  (∀ r ∈ L, r.pos = pos + elemsz * cntB f pfn (r.pfn - pfn))

section
variable {f : Nat → Bool} {endPfn elemsz pos : Nat} {L : List Region}

theorem RunsFrom.nil {pfn : Nat} (h : endPfn ≤ pfn) :
    RunsFrom f endPfn elemsz pfn pos [] :=
  ⟨⟨List.Pairwise.nil, by simp⟩, by simp, fun p h1 h2 => by omega, by simp⟩

theorem RunsFrom.gap {pfn p : Nat}
    (h : RunsFrom f endPfn elemsz p pos L) (hp : pfn ≤ p) (hgap : ∀ q, pfn ≤ q → q < p → f q = false) :
    RunsFrom f endPfn elemsz pfn pos L := by
  obtain ⟨m, i2, i3, i4⟩ := h
  refine ⟨m, fun r hr => ⟨Nat.le_trans hp (i2 r hr).1, (i2 r hr).2⟩, ?_, ?_⟩
  · intro q h1 h2 h3
    by_cases hq : q < p
    · rw [hgap q h1 hq] at h3; cases h3
    · exact i3 q (by omega) h2 h3
  · intro r hr
    have := (i2 r hr).1
    rw [i4 r hr, show r.pfn - pfn = (p - pfn) + (r.pfn - p) by omega, cntB_add,
      cntB_false f pfn (p - pfn) (fun i hi => hgap _ (by omega) (by omega)), Nat.zero_add,
      show pfn + (p - pfn) = p by omega]

theorem RunsFrom.run {r p : Nat}
    (h : RunsFrom f endPfn elemsz p (pos + (p - r) * elemsz) L) (hrp : r < p) (hpe : p ≤ endPfn)
    (hrun : ∀ q, r ≤ q → q < p → f q = true) (hstop : p < endPfn → f p = false) :
    RunsFrom f endPfn elemsz r pos (⟨r, p - r, pos⟩ :: L) := by
  obtain ⟨⟨m1, m2⟩, i2, i3, i4⟩ := h
  refine ⟨⟨List.pairwise_cons.mpr ⟨?_, m1⟩, ?_⟩, ?_, ?_, ?_⟩
  · intro r' hr'
    obtain ⟨j1, j2, j3⟩ := i2 r' hr'
    have := m2 r' hr'
    show r + (p - r) < r'.pfn
    by_cases heq : p = r'.pfn
    · -- the next region cannot start where this run stopped
      have t := j3 p ⟨by omega, by omega⟩
      rw [hstop (by omega)] at t; cases t
    · omega
  · intro r' hr'
    rcases List.mem_cons.mp hr' with rfl | hr'
    · show 0 < p - r; omega
    · exact m2 r' hr'
  · intro r' hr'
    rcases List.mem_cons.mp hr' with rfl | hr'
    · exact ⟨Nat.le_refl _, by show r + (p - r) ≤ endPfn; omega,
        fun q ⟨h1, h2⟩ => hrun q h1 (by simp only at h2; omega)⟩
    · obtain ⟨j1, j2, j3⟩ := i2 r' hr'
      exact ⟨by omega, j2, j3⟩
  · intro q h1 h2 h3
    by_cases hq : q < p
    · exact ⟨_, List.mem_cons_self, h1, by show q < r + (p - r); omega⟩
    · obtain ⟨r', hr', hh⟩ := i3 q (by omega) h2 h3
      exact ⟨r', List.mem_cons_of_mem _ hr', hh⟩
  · intro r' hr'
    rcases List.mem_cons.mp hr' with rfl | hr'
    · show pos = pos + elemsz * cntB f r (r - r)
      rw [Nat.sub_self]; rfl
    · have := (i2 r' hr').1
      rw [i4 r' hr', show r'.pfn - r = (p - r) + (r'.pfn - p) by omega, cntB_add,
        cntB_true f r (p - r) (fun i hi => hrun _ (by omega) (by omega)), show r + (p - r) = p by omega,
        Nat.mul_add, Nat.mul_comm elemsz (p - r), Nat.add_assoc]

end

section
variable {bm : Bitmap} {msb0 : Bool} {endPfn elemsz size : Nat}

theorem rgo_zero (pfn pos : Nat) (acc : List Region) :
    regionsFromBitmap.go bm msb0 endPfn elemsz size 0 pfn pos acc = acc := rfl

theorem rgo_succ (fuel pfn pos : Nat) (acc : List Region) :
    regionsFromBitmap.go bm msb0 endPfn elemsz size (fuel+1) pfn pos acc =
      if pfn < endPfn then
        let r := min (skipClear msb0 bm size pfn) endPfn
        let p := min (skipSet msb0 bm size (skipClear msb0 bm size pfn)) endPfn
        if p - r = 0 then regionsFromBitmap.go bm msb0 endPfn elemsz size fuel p pos acc
        else regionsFromBitmap.go bm msb0 endPfn elemsz size fuel p (pos + (p - r) * elemsz)
          (acc ++ [⟨r, p - r, pos⟩])
      else acc := by
  cases msb0 <;> rfl

theorem rgo_acc :
    ∀ fuel pfn pos acc, regionsFromBitmap.go bm msb0 endPfn elemsz size fuel pfn pos acc =
      acc ++ regionsFromBitmap.go bm msb0 endPfn elemsz size fuel pfn pos [] := by
  intro fuel
  induction fuel with
  | zero => intro pfn pos acc; simp [rgo_zero]
  | succ fuel ih =>
    intro pfn pos acc
    rw [rgo_succ, rgo_succ]
    dsimp only
    split
    · split
      · exact ih _ _ _
      · rw [ih _ _ (acc ++ _), ih _ _ ([] ++ _)]; simp
    · simp

theorem rgo_done (fuel pfn pos : Nat) (h : endPfn ≤ pfn) :
    regionsFromBitmap.go bm msb0 endPfn elemsz size fuel pfn pos [] = [] := by
  cases fuel with
  | zero => rfl
  | succ fuel => rw [rgo_succ, if_neg (by omega)]

end

theorem rgo_round (msb0 : Bool) (bm : Bitmap) (hb : BytesWF bm) (endPfn elemsz size : Nat)
    (hsz : endPfn ≤ size * 8) (fuel pfn pos : Nat) (h : pfn < endPfn) :
    ∃ r p, pfn ≤ r ∧ r ≤ p ∧ p ≤ endPfn ∧ pfn < p ∧
      (∀ q, pfn ≤ q → q < r → bitOf msb0 bm q = false) ∧
      (∀ q, r ≤ q → q < p → bitOf msb0 bm q = true) ∧
      (p < endPfn → bitOf msb0 bm p = false) ∧
      regionsFromBitmap.go bm msb0 endPfn elemsz size (fuel+1) pfn pos [] =
        if p - r = 0 then regionsFromBitmap.go bm msb0 endPfn elemsz size fuel p pos []
        else ⟨r, p - r, pos⟩ :: regionsFromBitmap.go bm msb0 endPfn elemsz size fuel p (pos + (p - r) * elemsz) [] := by
  obtain ⟨c1, _, c3, c4⟩ := skipClear_spec msb0 bm hb size pfn
  obtain ⟨s1, _, s3, s4⟩ := skipSet_spec msb0 bm hb size (skipClear msb0 bm size pfn)
  have hgo := @rgo_succ bm msb0 endPfn elemsz size fuel pfn pos []
  rw [if_pos h] at hgo
  dsimp only at hgo
  rw [rgo_acc _ _ _ ([] ++ _)] at hgo
  generalize skipSet msb0 bm size (skipClear msb0 bm size pfn) = p0 at *
  generalize skipClear msb0 bm size pfn = r0 at *
  have hprog : r0 < endPfn → r0 < p0 := by
    intro hr
    by_cases he : p0 = r0
    · have t := c4 (by omega)
      rw [← he, s4 (by omega)] at t; cases t
    · omega
  refine ⟨min r0 endPfn, min p0 endPfn, by omega, by omega, by omega, by omega,
    fun q h1 h2 => c3 q h1 (by omega) (by omega), fun q h1 h2 => s3 q (by omega) (by omega) (by omega), ?_, hgo⟩
  intro hp
  rw [show min p0 endPfn = p0 by omega]
  exact s4 (by omega)

theorem rgo_spec (msb0 : Bool) (bm : Bitmap) (hb : BytesWF bm) (endPfn elemsz size : Nat)
    (hsz : endPfn ≤ size * 8) :
    ∀ fuel pfn pos, (endPfn ≤ pfn ∨ endPfn + 1 ≤ fuel + pfn) →
      RunsFrom (bitOf msb0 bm) endPfn elemsz pfn pos
        (regionsFromBitmap.go bm msb0 endPfn elemsz size fuel pfn pos []) := by
  intro fuel
  induction fuel with
  | zero => intro pfn pos hf; exact RunsFrom.nil (by omega)
  | succ fuel ih =>
    intro pfn pos hf
    by_cases hlt : pfn < endPfn
    case neg => rw [rgo_done _ _ _ (by omega)]; exact RunsFrom.nil (by omega)
    obtain ⟨r, p, h1, h2, h3, h4, hgap, hrun, hstop, hgo⟩ :=
      rgo_round msb0 bm hb endPfn elemsz size hsz fuel pfn pos hlt
    rw [hgo]
    split
    · rename_i hc
      exact (ih p pos (by omega)).gap (by omega) fun q q1 q2 => hgap q q1 (by omega)
    · rename_i hc
      exact ((ih p _ (by omega)).run (by omega) h3 hrun hstop).gap h1 hgap

theorem regionsFromBitmap_runs (msb0 : Bool) (bm : Bitmap) (hb : BytesWF bm)
    (startPfn endPfn fileoff elemsz : Nat) :
    RunsFrom (bitOf msb0 bm) endPfn elemsz startPfn fileoff
      (regionsFromBitmap bm msb0 startPfn endPfn fileoff elemsz) :=
  rgo_spec msb0 bm hb endPfn elemsz ((endPfn + 7) / 8) (by omega) (endPfn + 1) startPfn fileoff (by omega)

end Kdf.Lemmas.Pfn
